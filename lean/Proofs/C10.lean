/-
C10 — URL normalisation yields a stable canonical form: the statements component by component (percent escapes,
percent-encoding, host, path, IPv4, scheme, port) over the model `Wpull.Url`.  The whole-URL statements are in
Proofs/C10Norm.lean.
-/
import Proofs.Lemmas.Ipv4
import Proofs.Lemmas.PathEnc
namespace Wpull.Url

/-- a configuration for the examples: UTF-8, parameters that refuse everything -/
def cfgT : Cfg :=
  { defaultScheme := some sHttp, encode := utf8Enc, lowerNA := id,
    idnaNA := fun _ => .error .UnicodeError, ipv6 := fun _ => .error .AddressValueError, unquote := id }

theorem isHexDigit_ne_37 {a : Nat} (h : isHexDigit a = true) : (a == 37) = false := by
  rw [isHexDigit_iff] at h
  rw [beq_eq_false_iff_ne]
  omega

theorem upperPct_head (c : Nat) (t : Str) : ∃ r, upperPct (c :: t) = c :: r := by
  match t with
  | [] => exact ⟨[], by simp [upperPct]⟩
  | [a] => exact ⟨[a], by simp [upperPct]⟩
  | a :: b :: t =>
    unfold upperPct
    split
    · exact ⟨_, rfl⟩
    · exact ⟨_, rfl⟩

/-- rewriting the tail leaves the escape test at `c` negative: `b` becomes `x`, a hex digit iff `b` is -/
theorem upperPct_two (c a b : Nat) (t : Str) (h : ¬ (c == 37 && isHexDigit a && isHexDigit b) = true) :
    ∃ x r, upperPct (a :: b :: t) = a :: x :: r ∧ (c == 37 && isHexDigit a && isHexDigit x) = false := by
  have h := Bool.eq_false_iff.2 h
  match t with
  | [] => exact ⟨b, [], by simp [upperPct], h⟩
  | d :: t =>
    unfold upperPct
    split
    · exact ⟨_, _, rfl, by rwa [isHexDigit_asciiUpper]⟩
    · obtain ⟨r, hr⟩ := upperPct_head b (d :: t)
      exact ⟨b, r, by rw [hr], h⟩

theorem upperPct_skip (c x y : Nat) (r : Str)
    (h : (c == 37 && isHexDigit x && isHexDigit y) = false) :
    upperPct (c :: x :: y :: r) = c :: upperPct (x :: y :: r) := by
  rw [upperPct]
  simp [h]

/-- every `%xy` with hex digits `x`, `y` has no lower-case letter -/
def escUpper : Str → Bool
  | c :: a :: b :: t =>
    (!(c == 37 && isHexDigit a && isHexDigit b) || (!isAsciiLower a && !isAsciiLower b)) &&
      escUpper (a :: b :: t)
  | _ => true

theorem escUpper_cons_ne {x : Nat} (hx : (x == 37) = false) (s : Str) : escUpper (x :: s) = escUpper s := by
  match s with
  | a :: b :: t => rw [escUpper, hx]; rfl
  | [a] => rfl
  | [] => rfl

/-- **C10, escapes (idempotence).** `uppercase_percent_encoding` applied to its own output changes nothing. -/
theorem upperPct_idem (s : Str) : upperPct (upperPct s) = upperPct s := by
  fun_induction upperPct s with
  | case1 c a b t h ih =>
    rw [upperPct]
    simp only [isHexDigit_asciiUpper, h, if_true, asciiUpper_idem, ih]
  | case2 c a b t h ih =>
    obtain ⟨x, r, hx, hc⟩ := upperPct_two c a b t h
    rw [hx] at ih ⊢
    rw [upperPct_skip c a x r hc, ih]
  | case3 c a => simp [upperPct]
  | case4 c => simp [upperPct]
  | case5 => simp [upperPct]

/-- **C10, escapes (upper case).**  In the output of `uppercase_percent_encoding` no `%` followed by two hex digits
has a lower-case one. -/
theorem upperPct_escUpper (s : Str) : escUpper (upperPct s) = true := by
  fun_induction upperPct s with
  | case1 c a b t h ih =>
    simp only [Bool.and_eq_true] at h
    have ha := isHexDigit_ne_37 ((isHexDigit_asciiUpper a).trans h.1.2)
    have hb := isHexDigit_ne_37 ((isHexDigit_asciiUpper b).trans h.2)
    rw [escUpper, escUpper_cons_ne ha, escUpper_cons_ne hb, ih, asciiUpper_not_lower, asciiUpper_not_lower]
    simp
  | case2 c a b t h ih =>
    obtain ⟨x, r, hx, hc⟩ := upperPct_two c a b t h
    rw [hx] at ih ⊢
    rw [escUpper, hc, ih]; rfl
  | case3 c a => simp [escUpper]
  | case4 c => simp [escUpper]
  | case5 => simp [escUpper]

-- `%aF%%af%g0` ↦ `%AF%%AF%g0`, and `%aF` is not upper case
example : upperPct [37, 97, 70, 37, 37, 97, 102, 37, 103, 48] = [37, 65, 70, 37, 37, 65, 70, 37, 103, 48] := by decide +kernel
example : escUpper [37, 97, 70] = false := by decide +kernel

/-- **C10, encode sets.**  `DEFAULT_ENCODE_SET` holds neither `%` nor an upper-case hex digit. -/
theorem defaultSet_closed : SetClosed defaultSet := by decide
/-- **C10, encode sets.**  The same for `QUERY_ENCODE_SET`. -/
theorem querySet_closed : SetClosed querySet := by decide
/-- **C10, encode sets.**  The same for `FRAGMENT_ENCODE_SET`.  (The user-name and password sets hold `%`.) -/
theorem fragmentSet_closed : SetClosed fragmentSet := by decide

/-- **C10, percent-encoding (bytes).**  For an encode set that holds neither `%` nor an upper-case hex digit, encoding
the encoder's own output changes nothing. -/
theorem pctBytes_idem {set : List Nat} (hs : SetClosed set) {bs : Bytes} (hb : ∀ b ∈ bs, b < 256) :
    pctBytes set (pctBytes set bs) = pctBytes set bs :=
  pctBytes_stable fun c hc => (pctBytes_mem hb c hc).elim hs.stable And.right

/-- **C10, percent-encoding (text).**  For such a set, `percent_encode` (UTF-8) returns the output of `percent_encode` +
`uppercase_percent_encoding` unchanged: a normalised path or fragment is a fixed point of the encoder (the query
goes through `percent_encode_plus`: `query_reparse`). -/
theorem percentEncode_fixed {set : List Nat} (hs : SetClosed set) {bs : Bytes} (hb : ∀ b ∈ bs, b < 256) :
    percentEncode utf8Enc set (upperPct (pctBytes set bs)) = .ok (upperPct (pctBytes set bs)) :=
  percentEncode_of_outChar utf8Enc_segSafe hs (component_out hb)

/-- **C10, character class of a component.**  With an encode set that holds the space (all but the query's), every
character of the normalised component is in `0x21..0x7e`. -/
theorem component_ascii {set : List Nat} (hs : SetClosed set) (h32 : set.contains 32 = true)
    {bs : Bytes} (hb : ∀ b ∈ bs, b < 256) :
    ∀ c ∈ upperPct (pctBytes set bs), 0x21 ≤ c ∧ c ≤ 0x7E := by
  intro c hc
  have h := component_out hb c hc
  have := outChar_range h
  have := outChar_print h32 h
  omega

-- the bytes of ` é%a` ↦ `%20%C3%A9%a`
example : pctBytes defaultSet [32, 0xC3, 0xA9, 37, 97] = [37, 50, 48, 37, 67, 51, 37, 65, 57, 37, 97] := by decide +kernel

theorem isAscii_iff {s : List Nat} : isAscii s = true ↔ ∀ c ∈ s, c < 128 := by
  unfold isAscii; simp

theorem idnaEncode_ascii (c c' : Cfg) {h : Str} (ha : isAscii h = true) : idnaEncode c h = idnaEncode c' h := by
  simp only [idnaEncode, ha, if_true]

theorem normalizeHostname_result {c : Cfg} {h n : Str} (hh : normalizeHostname c h = .ok n) :
    isAscii n = true ∧ n.map asciiLower = n ∧ (∀ x ∈ n, isAsciiUpper x = false) ∧
    ∀ c' : Cfg, idnaEncode c' n = .ok n := by
  obtain ⟨b, _, hasc, rfl, b', hb'⟩ := normalizeHostname_inv hh
  have hall : ∀ x ∈ b, x < 128 := isAscii_iff.mp hasc
  have hn_ascii : isAscii (b.map asciiLower) = true :=
    isAscii_iff.mpr (List.forall_mem_map.2 fun y hy => asciiLower_lt (hall y hy))
  refine ⟨hn_ascii, by simp [asciiLower_idem],
    List.forall_mem_map.2 fun y _ => asciiLower_not_upper y, fun c' => ?_⟩
  rcases idnaEncode_inv hb' with ⟨_, rfl⟩ | ⟨hna, _⟩
  · exact idnaEncode_ascii c c' hn_ascii ▸ hb'
  · rw [hn_ascii] at hna; cases hna

theorem normalizeHostname_fixed (c : Cfg) {n : Str} (ha : isAscii n = true)
    (hl : n.map asciiLower = n) (hi : idnaEncode c n = .ok n) : normalizeHostname c n = .ok n := by
  unfold normalizeHostname
  rw [hi]
  simp [ha, hl]

theorem normalizeHostname_ipv4Compressed (c : Cfg) (n : Nat) :
    normalizeHostname c (ipv4Compressed n) = .ok (ipv4Compressed n) := by
  have hch := ipv4Compressed_chars n
  have ha : isAscii (ipv4Compressed n) = true :=
    isAscii_iff.mpr (fun x hx => by rcases hch x hx with h | h <;> omega)
  have hl : (ipv4Compressed n).map asciiLower = ipv4Compressed n := by
    refine (List.map_congr_left fun x hx => ?_).trans (List.map_id' _)
    rcases asciiLower_cases x with ⟨h1, h2, -⟩ | ⟨-, e⟩
    · rcases hch x hx with h | h <;> omega
    · exact e
  apply normalizeHostname_fixed c ha hl
  unfold idnaEncode
  split
  · rename_i he
    rw [List.isEmpty_iff.1 he]
  · simp [ipv4Compressed_labels n]

/-- **C10, host (character class and case).**  A host name returned by `parse_hostname` for a non-bracketed host is
ASCII, has no upper-case letter and none of the forbidden characters `#%/:?@[\]` or space. -/
theorem hostname_lower_ascii (c : Cfg) {h hn : Str} (hb : startsWith h [91] = false)
    (hh : parseHostname c h = .ok hn) :
    ∀ x ∈ hn, x < 128 ∧ isAsciiUpper x = false ∧ forbiddenHost.contains x = false := by
  obtain ⟨h1, h2, _, hh2, hh3, hforb⟩ := (parseHostname_plain hb).1 hh
  intro x hx
  have hf : forbiddenHost.contains x = false := List.any_eq_false.1 hforb x hx |> Bool.eq_false_iff.2
  obtain ⟨hasc, _, hnu, _⟩ := normalizeHostname_result hh2
  rcases tryIpv4_inv hh3 with h4 | rfl
  · obtain ⟨n, _, rfl⟩ := normalizeIpv4_inv h4
    have := ipv4Compressed_chars n x hx
    refine ⟨by omega, ?_, hf⟩
    simp only [isAsciiUpper, Bool.and_eq_false_iff, decide_eq_false_iff_not]
    omega
  · exact ⟨isAscii_iff.mp hasc x hx, hnu x hx, hf⟩

/-- **C10, host (idempotence / re-parse).**  The host name that `parse_hostname` returns for a non-bracketed host is
returned unchanged when parsed again, under any parameters (no IDNA or Unicode table is consulted the second time).
In particular no spelling takes two rounds (`0X7f000001 → 0x7f000001 → 127.0.0.1`). -/
theorem hostname_idem (c c' : Cfg) {h hn : Str} (hb : startsWith h [91] = false)
    (hh : parseHostname c h = .ok hn) : parseHostname c' hn = .ok hn := by
  obtain ⟨h1, h2, _, hh2, hh3, hforb⟩ := (parseHostname_plain hb).1 hh
  have hnb := startsWith_of_not_mem (forbidden_not_mem hforb 91)
  obtain ⟨hasc, hlow, _, hidna⟩ := normalizeHostname_result hh2
  -- the three stages return their argument: it is a canonical IPv4 text, or none of them touches it
  rcases tryIpv4_inv hh3 with h4 | rfl
  · obtain ⟨n, hn, rfl⟩ := normalizeIpv4_inv h4
    have ht : tryIpv4 (ipv4Compressed n) = .ok (ipv4Compressed n) := by
      simp only [tryIpv4, normalizeIpv4_ipv4Compressed n hn]
    exact (parseHostname_plain hnb).2 ⟨_, _, ht, normalizeHostname_ipv4Compressed c' n, ht, hforb⟩
  · exact (parseHostname_plain hnb).2 ⟨_, _, hh3, normalizeHostname_fixed c' hasc hlow (hidna c'), hh3, hforb⟩

-- `0X7f000001` is normalised to `127.0.0.1` in one step
example : parseHostname cfgT [48, 88, 55, 102, 48, 48, 48, 48, 48, 49] = .ok [49, 50, 55, 46, 48, 46, 48, 46, 49] := by
  decide +kernel

/-- **C10, path (flat and absolute).**  The output of `flatten_path(…, flatten_slashes=True)` is `/` followed by
`/`-joined segments none of which is `.` or `..`, and none of which is empty except possibly the last. -/
theorem flatten_clean (p : Str) :
    ∃ segs, CleanSegs segs ∧ flattenPath true p = 47 :: joinWith [47] segs := by
  rw [flattenPath_eq]
  split
  · refine ⟨[[]], ⟨by simp, by simp, by simp⟩, by simp [joinWith]⟩
  · generalize stripSlash p = q
    have hg : ∀ s ∈ flattenParts true (splitC 47 q) [], GoodSeg s :=
      flattenParts_good _ _ (by simp) fun s hs => (mem_splitC 47 q s hs).1
    generalize flattenParts true (splitC 47 q) [] = np at hg
    split
    · refine ⟨np ++ [[]], ⟨by simp, List.forall_concat (fun s h => (hg s h).1) (by simp), fun s hs => ?_⟩,
        joinWith_cons_of_ne_nil [47] [] (by simp)⟩
      rw [List.dropLast_concat] at hs
      exact (hg s hs).2
    · rename_i h
      have hne : np ≠ [] := by
        intro e
        simp [e] at h
      exact ⟨np, ⟨hne, fun s hs => (hg s hs).1, fun s hs => (hg s (List.dropLast_subset _ hs)).2⟩,
        joinWith_cons_of_ne_nil [47] [] hne⟩

/-- **C10, path (idempotence).**  `flatten_path(…, flatten_slashes=True)` applied to its own output changes nothing. -/
theorem flatten_idem (p : Str) : flattenPath true (flattenPath true p) = flattenPath true p := by
  obtain ⟨segs, hc, he⟩ := flatten_clean p
  rw [he]
  exact flattenPath_of_clean segs hc

/-- **C10, path (after encoding).**  The normalised path — flattened, percent-encoded, escapes upper-cased — is a
fixed point of `flatten_path`. -/
theorem path_normal_flat {enc : Str → Except PyExc Bytes} (h : SegSafe enc) (p : Str) (bs : Bytes)
    (he : enc (flattenPath true p) = .ok bs) :
    flattenPath true (upperPct (pctBytes defaultSet bs)) = upperPct (pctBytes defaultSet bs) := by
  obtain ⟨segs, hc, hf⟩ := flatten_clean p
  obtain ⟨segs', hc', e⟩ := path_normal_clean h hc (hf ▸ he)
  rw [e]
  exact flattenPath_of_clean segs' hc'

-- `/a//./b/../c/` ↦ `/a/c/`
example : flattenPath true [47, 97, 47, 47, 46, 47, 98, 47, 46, 46, 47, 99, 47] = [47, 97, 47, 99, 47] := by decide +kernel

/-- **C10, IPv4.**  Every spelling that `normalize_ipv4_address` accepts (decimal, octal, hex, dword) is mapped to a
text that the function maps to itself. -/
theorem ipv4_normal_form_fixed {a r : Str} (h : normalizeIpv4 a = .ok r) : normalizeIpv4 r = .ok r := by
  obtain ⟨n, hn, rfl⟩ := normalizeIpv4_inv h
  exact normalizeIpv4_ipv4Compressed n hn

-- 0x7f.1.0x0.01 (hex, decimal, hex, octal) and the dword 2130771969 are the same address
example : normalizeIpv4 [48, 120, 55, 102, 46, 49, 46, 48, 120, 48, 46, 48, 49] = .ok [49, 50, 55, 46, 49, 46, 48, 46, 49] := by decide +kernel
example : normalizeIpv4 [50, 49, 51, 48, 55, 55, 49, 57, 54, 57] = .ok [49, 50, 55, 46, 49, 46, 48, 46, 49] := by decide +kernel

/-- **C10, scheme.**  A network scheme of a parse result is one of the six constants: lower-case ASCII letters only. -/
theorem scheme_lower {s : Option Str} {sch : Str} {dp : Nat} (h : netScheme? s = some (sch, dp)) :
    ∀ x ∈ sch, isAsciiLower x = true :=
  (by decide : ∀ p ∈ schemePorts, ∀ x ∈ p.1, isAsciiLower x = true) _ (mem_schemePorts (netScheme_inv h).2)

/-- the text of `.url` for any record with a network scheme (attributes may be `None`, unlike in `url_shape`) -/
theorem url_inv {i : URLInfo} {sch : Str} {dp : Nat} (hs : netScheme? i.scheme = some (sch, dp))
    {u : Str} (hu : i.url = .ok u) :
    ∃ ui, u = sch ++ [58, 47, 47] ++ ui ++
      (if i.isIPv6 == some true then [91] ++ i.hostname.getD [] ++ [93] else i.hostname.getD []) ++
      (if some dp != i.port then 58 :: natDec (i.port.getD 0) else []) ++ i.path.getD [] ++
      (if (i.query.getD []).isEmpty then [] else 63 :: i.query.getD []) := by
  unfold URLInfo.url at hu
  rw [hs] at hu
  simp only at hu
  split at hu
  · cases hu
  split at hu
  · cases hu
  rename_i a _ _ b _
  cases hu
  exact ⟨a ++ (if (i.password.getD []).isEmpty then [] else 58 :: b) ++
    (if (i.username.getD []).isEmpty && (i.password.getD []).isEmpty then [] else [64]), by
      cases i.query <;> simp only [List.append_assoc] <;> rfl⟩

/-- **C10, default port.**  When the port of a result is the scheme's default port, the reassembled URL goes from the
host straight to the path: no `:port` is written. -/
theorem default_port_elided (i : URLInfo) (sch : Str) (dp : Nat)
    (hs : netScheme? i.scheme = some (sch, dp)) (hp : i.port = some dp) (u : Str) (hu : i.url = .ok u) :
    ∃ ui, u = sch ++ [58, 47, 47] ++ ui ++
      (if i.isIPv6 == some true then [91] ++ i.hostname.getD [] ++ [93] else i.hostname.getD []) ++
      i.path.getD [] ++
      (match i.query with
       | some q => if q.isEmpty then [] else 63 :: q
       | none => []) := by
  obtain ⟨ui, rfl⟩ := url_inv hs hu
  exact ⟨ui, by cases i.query <;> simp [hp]⟩

/-- **C10, port kept.**  Converse of `default_port_elided`: a port that is not the default of the URL's *own* scheme
(in particular the default port of another scheme: `https://h:80/`) is written, in decimal, between host and path. -/
theorem nondefault_port_kept (i : URLInfo) (sch : Str) (dp p : Nat)
    (hs : netScheme? i.scheme = some (sch, dp)) (hp : i.port = some p) (hne : p ≠ dp)
    (u : Str) (hu : i.url = .ok u) :
    ∃ ui, u = sch ++ [58, 47, 47] ++ ui ++
      (if i.isIPv6 == some true then [91] ++ i.hostname.getD [] ++ [93] else i.hostname.getD []) ++
      (58 :: natDec p) ++ i.path.getD [] ++
      (match i.query with
       | some q => if q.isEmpty then [] else 63 :: q
       | none => []) := by
  obtain ⟨ui, rfl⟩ := url_inv hs hu
  exact ⟨ui, by cases i.query <;> simp [hp, Ne.symm hne]⟩

-- `https://h:80/` keeps its port (the default of another scheme)
example : (parse cfgT [104, 116, 116, 112, 115, 58, 47, 47, 104, 58, 56, 48, 47]).bind URLInfo.url
    = .ok [104, 116, 116, 112, 115, 58, 47, 47, 104, 58, 56, 48, 47] := by decide +kernel

/-- **C10, port re-parse.**  The `host:port` part of a normal form is read back as itself: for a non-bracketed host
name `hn` returned by `parse_hostname` and a port `p` ≤ 65535, `parse_host(hn + ':' + str(p)) = (hn, p)`, under any
parameters. -/
theorem hostport_reparse (c c' : Cfg) {h hn : Str} (hb : startsWith h [91] = false)
    (hh : parseHostname c h = .ok hn) (p : Nat) (hp : p < 65536) :
    parseHost c' (hn ++ 58 :: natDec p) = .ok (hn, some p) :=
  parseHost_port (hostname_idem c c' hb hh) hp

-- `http://h:81` ↦ `http://h:81/`
example : (parse cfgT [104, 116, 116, 112, 58, 47, 47, 104, 58, 56, 49]).bind URLInfo.url
    = .ok [104, 116, 116, 112, 58, 47, 47, 104, 58, 56, 49, 47] := by decide +kernel
-- `http://h:080` ↦ `http://h/`: the port is read as a number
example : (parse cfgT [104, 116, 116, 112, 58, 47, 47, 104, 58, 48, 56, 48]).bind URLInfo.url
    = .ok [104, 116, 116, 112, 58, 47, 47, 104, 47] := by decide +kernel

end Wpull.Url
