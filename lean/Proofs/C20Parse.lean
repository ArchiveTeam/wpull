/-
C20 — the robots.txt tokenizer (`Wpull/RobotsParse.lean`, model of `RobotExclusionRulesParser.parse`, tied to the
real parser by the `parse` stream of harness/engines/c20.py): what the gate relies on before the matcher runs, about
line ends, comments and a byte order mark.
`stepLine` looks at a line only through `lineBody` (`stepLine_eq`); the theorems about comments say what `lineBody`
is for a line with a `#` (`lineBody_comment`).
`strip`, `lstrip`, `rstrip`, `isPySpace` are those of `Wpull/RobotsParse.lean` (white space below 256 only), not the
primitives of `Wpull/Py/Str.lean`.
-/
import Wpull.RobotsParse
import Proofs.Lemmas.Py
import Proofs.Lemmas.Lit
namespace Wpull.Robots

theorem lstrip_cons (c : Nat) (m : Str) : lstrip (c :: m) = if isPySpace c then lstrip m else c :: m :=
  List.dropWhile_cons

theorem rstrip_cons (c : Nat) (m : Str) :
    rstrip (c :: m) = if isPySpace c = true ∧ rstrip m = [] then [] else c :: rstrip m := by
  simp only [rstrip, List.reverse_cons, List.dropWhile_append]
  by_cases h : List.dropWhile isPySpace m.reverse = [] <;> by_cases hc : isPySpace c = true <;> simp [h, hc]

theorem rstrip_nil : rstrip [] = [] := rfl

theorem rstrip_cons_nonspace {c : Nat} (hc : isPySpace c = false) (m : Str) : rstrip (c :: m) = c :: rstrip m := by
  rw [rstrip_cons, if_neg (by simp [hc])]

theorem rstrip_append_nonspace {p : Str} (hp : ∀ c ∈ p, isPySpace c = false) (x : Str) :
    rstrip (p ++ x) = p ++ rstrip x := by
  induction p with
  | nil => rfl
  | cons a t ih =>
    rw [List.cons_append, rstrip_cons_nonspace (hp a (by simp)), ih fun c hc => hp c (List.mem_cons_of_mem _ hc)]
    rfl

theorem rstrip_append_stop (a c : Str) {x : Nat} (hx : isPySpace x = false) :
    rstrip (a ++ x :: c) = a ++ x :: rstrip c := by
  induction a with
  | nil => exact rstrip_cons_nonspace hx c
  | cons y a ih => rw [List.cons_append, rstrip_cons, ih, if_neg (by simp)]; rfl

theorem lstrip_rstrip_comm (s : Str) : lstrip (rstrip s) = rstrip (lstrip s) := by
  induction s with
  | nil => rfl
  | cons c m ih =>
    rw [lstrip_cons, rstrip_cons]
    by_cases hc : isPySpace c = true
    · rw [if_pos hc, ← ih]
      split
      · rename_i h; rw [h.2]
      · rw [lstrip_cons, if_pos hc]
    · rw [if_neg hc, if_neg (fun h => hc h.1), lstrip_cons, if_neg hc, rstrip_cons, if_neg (fun h => hc h.1)]

theorem lstrip_idem (s : Str) : lstrip (lstrip s) = lstrip s := by
  induction s with
  | nil => rfl
  | cons c m ih =>
    rw [lstrip_cons]
    split
    · exact ih
    · rename_i h; rw [lstrip_cons, if_neg h]

theorem lstrip_of_all_space {w : Str} (h : ∀ c ∈ w, isPySpace c = true) : lstrip w = [] :=
  List.dropWhile_eq_nil_iff.mpr h

theorem beforeHash_cons (a : Nat) (t : Str) : beforeHash (a :: t) = if a = 35 then [] else a :: beforeHash t := by
  by_cases h : a = 35 <;> simp [beforeHash, h]

theorem beforeHash_append {a : Str} (h : 35 ∉ a) (x : Str) : beforeHash (a ++ x) = a ++ beforeHash x :=
  List.takeWhile_append_of_pos fun c hc => by simpa using fun (e : c = 35) => h (e ▸ hc)

theorem beforeHash_lstrip (s : Str) : beforeHash (lstrip s) = lstrip (beforeHash s) := by
  induction s with
  | nil => rfl
  | cons a t ih =>
    rw [lstrip_cons, beforeHash_cons]
    by_cases ha : isPySpace a = true
    · have h35 : a ≠ 35 := by rintro rfl; revert ha; decide
      rw [if_pos ha, if_neg h35, lstrip_cons, if_pos ha, ih]
    · rw [if_neg ha, beforeHash_cons]
      split
      · rfl
      · rw [lstrip_cons, if_neg ha]

/-- The line as the parser looks at it, with `lstrip` as the last step (which the search for a directive does not
need: `findDirective_lstrip`). -/
theorem body_eq (l : Str) : strip (beforeHash (strip l)) = lstrip (rstrip (beforeHash (rstrip l))) := by
  unfold strip
  rw [← lstrip_rstrip_comm l, beforeHash_lstrip, lstrip_idem, ← lstrip_rstrip_comm]

/-- What `stepLine` looks at: nothing for a line that holds only a comment, else the text in front of the
comment, stripped. -/
def lineBody (line : Str) : Option Str :=
  if (strip line).head? = some 35 then none else some (strip (beforeHash (strip line)))

/-- the last `match` of `stepLine`, which the model has inline, repeated; `stepLine_eq` holds the copy to the model -/
def applyDirective (st : PState) : Option (Field × Str) → PState
  | none => st
  | some (f, d) =>
    let d := scrub d
    match f with
    | .userAgent =>
      if st.prevUA then
        { st with cur := st.cur.map fun r => if d.isEmpty then r else { r with names := r.names ++ [d] } }
      else ⟨closeCur st, some ⟨if d.isEmpty then [] else [d], []⟩, true⟩
    | .allow => { st with prevUA := false, cur := st.cur.map fun r => { r with rules := r.rules ++ [(true, d)] } }
    | .disallow => { st with prevUA := false, cur := st.cur.map fun r => { r with rules := r.rules ++ [(false, d)] } }
    | .sitemap => { st with prevUA := false }
    | .crawlDelay => { st with prevUA := false }

def stepBody (st : PState) : Option Str → PState
  | none => st
  | some b => if b.isEmpty then ⟨closeCur st, none, false⟩ else applyDirective st (findDirective b)

theorem stepLine_eq (st : PState) (line : Str) : stepLine st line = stepBody st (lineBody line) := by
  rw [stepLine, lineBody]
  by_cases h : (strip line).head? = some 35
  · rw [if_pos h, if_pos h]; rfl
  · rw [if_neg h, if_neg h, stepBody]
    -- the two sides differ in the auxiliary matcher only: decide the match before comparing
    by_cases he : (strip (beforeHash (strip line))).isEmpty = true
    · rw [if_pos he]; exact (if_pos he).symm
    · rw [if_neg he]; refine Eq.trans ?_ (if_neg he).symm
      cases findDirective (strip (beforeHash (strip line))) <;> rfl

/-- the right side does not mention the text `c` of the comment -/
theorem lineBody_comment {pre : Str} (h : 35 ∉ pre) (c : Str) :
    lineBody (pre ++ 35 :: c) = if lstrip pre = [] then none else some (strip (lstrip pre)) := by
  have hs : strip (pre ++ 35 :: c) = lstrip pre ++ 35 :: rstrip c := by
    unfold strip lstrip
    rw [List.dropWhile_append]
    split
    · rename_i he; rw [List.isEmpty_iff.mp he]; exact rstrip_cons_nonspace (by decide) c
    · exact rstrip_append_stop _ c (by decide)
  have h35 : 35 ∉ lstrip pre := fun m => h (List.dropWhile_subset _ m)
  rw [lineBody, hs, beforeHash_append h35, beforeHash_cons, if_pos rfl, List.append_nil]
  cases hp : lstrip pre with
  | nil => rfl
  | cons y ys =>
    have : y ≠ 35 := fun e => h35 (hp ▸ e ▸ List.mem_cons_self)
    rw [List.cons_append, if_neg (by simpa using this), if_neg (by simp)]

/-- Whatever follows the first `#` of a line plays no part. -/
theorem comment_text_irrelevant (st : PState) (pre c c' : Str) (h : 35 ∉ pre) :
    stepLine st (pre ++ 35 :: c) = stepLine st (pre ++ 35 :: c') := by
  rw [stepLine_eq, stepLine_eq, lineBody_comment h, lineBody_comment h]

/-- A line that holds only a comment changes nothing (it is no record boundary). -/
theorem comment_only_line_is_no_boundary (st : PState) (ws c : Str) (h : ∀ x ∈ ws, isPySpace x = true) :
    stepLine st (ws ++ 35 :: c) = st := by
  have h35 : 35 ∉ ws := fun m => by have := h 35 m; revert this; decide
  rw [stepLine_eq, lineBody_comment h35, if_pos (lstrip_of_all_space h)]; rfl

/-- the same line with the text of its comment taken out -/
def emptyComment (l : Str) : Str := if 35 ∈ l then beforeHash l ++ [35] else l

theorem beforeHash_split (l : Str) (h : 35 ∈ l) : ∃ c, l = beforeHash l ++ 35 :: c ∧ 35 ∉ beforeHash l := by
  induction l with
  | nil => cases h
  | cons x t ih =>
    rw [beforeHash_cons]
    split
    · rename_i hx; exact ⟨t, by simp [hx], by simp⟩
    · rename_i hx
      obtain ⟨c, hc, hn⟩ := ih ((List.mem_cons.mp h).resolve_left (Ne.symm hx))
      exact ⟨c, by rw [List.cons_append, ← hc], by simpa [Ne.symm hx] using hn⟩

theorem stepLine_emptyComment (st : PState) (l : Str) : stepLine st (emptyComment l) = stepLine st l := by
  unfold emptyComment
  split
  · rename_i h
    obtain ⟨c, hc, hn⟩ := beforeHash_split l h
    conv => rhs; rw [hc]
    exact comment_text_irrelevant st _ _ _ hn
  · rfl

/-- What the comments of a robots.txt say changes nothing: the rule sets are those of the file
with the text of every comment taken out. -/
theorem comments_carry_nothing (lines : List Str) :
    parseLines (lines.map emptyComment) = parseLines lines := by
  simp only [parseLines, List.foldl_map, stepLine_emptyComment]

def Clean (l : Str) : Prop := 10 ∉ l ∧ 13 ∉ l

theorem clean_nil : Clean [] := ⟨List.not_mem_nil, List.not_mem_nil⟩

theorem clean_cons {c : Nat} {l : Str} : Clean (c :: l) ↔ (c ≠ 10 ∧ c ≠ 13) ∧ Clean l := by
  simp only [Clean, List.mem_cons, not_or, ne_comm]; exact and_and_and_comm

theorem splitLines_ne_nil (s : Str) : splitLines s ≠ [] := by
  fun_induction splitLines s <;> exact List.cons_ne_nil _ _

theorem splitLines_nil : splitLines [] = [[]] := by rw [splitLines]

/- `splitLines.eq_3`: the clause for `c :: rest`; its side condition says that the text does not begin with CR LF. -/
theorem splitLines_lf (r : Str) : splitLines (10 :: r) = [] :: splitLines r := by
  rw [splitLines.eq_3 _ _ (by simp)]; simp

theorem splitLines_crlf (r : Str) : splitLines (13 :: 10 :: r) = [] :: splitLines r := by
  rw [splitLines]

theorem splitLines_cr (r : Str) (h : r.head? ≠ some 10) : splitLines (13 :: r) = [] :: splitLines r := by
  rw [splitLines.eq_3 _ _ (by rintro r' - rfl; simp at h)]; simp

theorem splitLines_cons {c : Nat} (hc : c ≠ 10 ∧ c ≠ 13) {r a : Str} {tl : List Str} (hr : splitLines r = a :: tl) :
    splitLines (c :: r) = (c :: a) :: tl := by
  rw [splitLines.eq_3 _ _ (fun _ h => absurd h hc.2), if_neg (by simp [hc]), hr]

theorem splitLines_append {l : Str} (h : Clean l) {r a : Str} {tl : List Str} (hr : splitLines r = a :: tl) :
    splitLines (l ++ r) = (l ++ a) :: tl := by
  induction l with
  | nil => exact hr
  | cons c l ih => exact splitLines_cons (clean_cons.mp h).1 (ih (clean_cons.mp h).2)

/-- the lines `splitLines` returns hold neither LF nor CR -/
theorem splitLines_lines_clean (s : Str) : ∀ l ∈ splitLines s, Clean l := by
  fun_induction splitLines s with
  | case1 => exact List.forall_mem_singleton.mpr clean_nil
  | case2 _ ih | case3 _ _ _ _ ih => exact List.forall_mem_cons.mpr ⟨clean_nil, ih⟩
  | case4 c rest _ _ hn => exact absurd hn (splitLines_ne_nil _)
  | case5 c rest _ hc l0 ls hs ih =>
    rw [hs, List.forall_mem_cons] at ih
    exact List.forall_mem_cons.mpr ⟨clean_cons.mpr ⟨not_or.mp hc, ih.1⟩, ih.2⟩

theorem splitLines_append_lf (l r : Str) (h : Clean l) : splitLines (l ++ 10 :: r) = l :: splitLines r := by
  simpa using splitLines_append h (splitLines_lf r)

/-- A text without CR and LF is one line: no other character ends a line. -/
theorem line_ends_only_at_cr_lf (s : Str) (h10 : 10 ∉ s) (h13 : 13 ∉ s) : splitLines s = [s] := by
  simpa using splitLines_append ⟨h10, h13⟩ splitLines_nil

inductive Eol where | lf | cr | crlf
def Eol.chars : Eol → Str
  | .lf => [10] | .cr => [13] | .crlf => [13, 10]

/-- so that no CR LF arises at a joint -/
theorem joinWith_cr_head (a : Str) (rest : List Str) (ha : Clean a) :
    (joinWith Eol.cr.chars (a :: rest)).head? ≠ some 10 := by
  have key : ∀ x : Str, x.head? ≠ some 10 → (a ++ x).head? ≠ some 10 := fun x hx => by
    cases a with
    | nil => exact hx
    | cons y a => simpa using (clean_cons.mp ha).1.1
  cases rest with
  | nil => simpa [joinWith] using key [] (by simp)
  | cons b rest =>
    rw [joinWith_cons_cons, List.append_assoc]
    exact key _ (by simp [Eol.chars])

theorem splitLines_join (e : Eol) (ls : List Str) (hne : ls ≠ []) (h : ∀ l ∈ ls, Clean l) :
    splitLines (joinWith e.chars ls) = ls := by
  match ls with
  | [] => exact absurd rfl hne
  | [a] => exact line_ends_only_at_cr_lf a (h a (by simp)).1 (h a (by simp)).2
  | a :: b :: rest =>
    have ih := splitLines_join e (b :: rest) (by simp) (fun l hl => h l (List.mem_cons_of_mem _ hl))
    have : splitLines (e.chars ++ joinWith e.chars (b :: rest)) = [] :: splitLines (joinWith e.chars (b :: rest)) := by
      cases e
      · exact splitLines_lf _
      · exact splitLines_cr _ (joinWith_cr_head b rest (h b (by simp)))
      · exact splitLines_crlf _
    rw [ih] at this
    rw [joinWith_cons_cons, List.append_assoc, splitLines_append (h a (by simp)) this, List.append_nil]

/-- The rule sets do not depend on how the line ends are spelled. -/
theorem line_end_spelling_irrelevant (e : Eol) (ls : List Str) (hne : ls ≠ []) (h : ∀ l ∈ ls, Clean l) :
    parseRobots (joinWith e.chars ls) = parseLines ls := by
  rw [parseRobots, splitLines_join e ls hne h]

theorem clean_emptyComment (l : Str) (h : Clean l) : Clean (emptyComment l) := by
  unfold emptyComment
  split
  · have hs : ∀ x, x ∈ beforeHash l → x ∈ l := fun x hx => List.takeWhile_subset _ hx
    exact ⟨by simpa using fun m => h.1 (hs _ m), by simpa using fun m => h.2 (hs _ m)⟩
  · exact h

/-- Text level: rewrite the file with every comment emptied (any line-end spelling): same rule sets. -/
theorem comments_carry_nothing_text (e : Eol) (t : Str) :
    parseRobots (joinWith e.chars ((splitLines t).map emptyComment)) = parseRobots t := by
  rw [line_end_spelling_irrelevant e _ (by simpa using splitLines_ne_nil t)
    (fun l hl => by
      obtain ⟨l0, h0, rfl⟩ := List.mem_map.mp hl
      exact clean_emptyComment l0 (splitLines_lines_clean t l0 h0))]
  exact comments_carry_nothing _

/-- a character no directive keyword starts with (in either case): `a d u s c`, the initials of `keywords` -/
def NotInit (c : Nat) : Prop := asciiLower c ≠ 97 ∧ asciiLower c ≠ 100 ∧ asciiLower c ≠ 117 ∧ asciiLower c ≠ 115 ∧ asciiLower c ≠ 99

theorem matchAt_notInit (c : Nat) (s : Str) (h : NotInit c) : matchAt (c :: s) = none := by
  obtain ⟨h1, h2, h3, h4, h5⟩ := h
  rw [matchAt, keywords]
  repeat rw [lit_ofList]
  simp [startsWith, List.findSome?, h1, h2, h3, h4, h5]

theorem findDirective_skip (p x : Str) (h : ∀ c ∈ p, NotInit c) : findDirective (p ++ x) = findDirective x := by
  induction p with
  | nil => rfl
  | cons c p ih =>
    simp only [List.cons_append, findDirective, matchAt_notInit c _ (h c (by simp))]
    exact ih (fun d hd => h d (List.mem_cons_of_mem _ hd))

theorem space_notInit (c : Nat) (h : isPySpace c = true) : NotInit c := by
  simp only [isPySpace, Bool.or_eq_true, Bool.and_eq_true, decide_eq_true_eq, beq_iff_eq] at h
  have e : asciiLower c = c := (asciiLower_cases c).elim (fun hu => by omega) (·.2)
  rw [NotInit, e]
  omega

theorem findDirective_lstrip (x : Str) : findDirective (lstrip x) = findDirective x := by
  conv => rhs; rw [← List.takeWhile_append_dropWhile (p := isPySpace) (l := x)]
  exact (findDirective_skip _ _ fun c hc =>
    space_notInit c (by simpa using List.all_eq_true.mp List.all_takeWhile c hc)).symm

/-- On the initial state a blank line, a comment and a line without directive all change nothing: a line
acts through the directive found in it alone. -/
theorem stepLine_init (l : Str) :
    stepLine PState.init l = applyDirective PState.init (findDirective (strip (beforeHash (strip l)))) := by
  rw [stepLine_eq, lineBody]
  by_cases h : (strip l).head? = some 35
  · obtain ⟨t, ht⟩ := List.head?_eq_some_iff.mp h
    rw [if_pos h, ht, beforeHash_cons, if_pos rfl]; rfl
  · rw [if_neg h, stepBody]
    split
    · rename_i he; rw [List.isEmpty_iff.mp he]; rfl
    · rfl

def Junk (c : Nat) : Prop := isPySpace c = false ∧ c ≠ 35 ∧ NotInit c

/-- Characters in front of the first line that are neither white space, nor `#`, nor the first letter of a
directive (a UTF-8 byte order mark read as ISO-8859-1 is three of them) change nothing: the directive pattern is
searched anywhere in the line. -/
theorem leading_junk_first_line (p l : Str) (hp : ∀ c ∈ p, Junk c) :
    stepLine PState.init (p ++ l) = stepLine PState.init l := by
  have hs : ∀ x, rstrip (p ++ x) = p ++ rstrip x := rstrip_append_nonspace fun c hc => (hp c hc).1
  -- both sides search `rstrip (beforeHash (rstrip l))` for a directive: behind `p` on the left, behind its
  -- leading white space on the right
  rw [stepLine_init, stepLine_init, body_eq, body_eq, hs, beforeHash_append (fun m => (hp 35 m).2.1 rfl), hs,
    findDirective_lstrip, findDirective_lstrip, findDirective_skip p _ fun c hc => (hp c hc).2.2]

theorem parseRobots_junk (p t : Str) (hp : ∀ c ∈ p, Junk c) : parseRobots (p ++ t) = parseRobots t := by
  have hc : Clean p := ⟨fun m => absurd (hp 10 m).1 (by decide), fun m => absurd (hp 13 m).1 (by decide)⟩
  obtain ⟨a, tl, h⟩ := List.exists_cons_of_ne_nil (splitLines_ne_nil t)
  rw [parseRobots, parseRobots, splitLines_append hc h, h, parseLines, parseLines, List.foldl_cons, List.foldl_cons,
    leading_junk_first_line p a hp]

/-- A UTF-8 byte order mark in front of a robots.txt changes none of its rule sets (text level). -/
theorem bom_irrelevant_text (t : Str) : parseRobots ([239, 187, 191] ++ t) = parseRobots t :=
  parseRobots_junk _ t (by unfold Junk NotInit; decide)

/-- a comment ending in NEL between the agent line and its rule: the rule stays in the record -/
example : parseRobots (lit "User-agent: *\n# \x85\nDisallow: /x") = [⟨[[42]], [(false, lit "/x")]⟩] := by
  repeat rw [lit_ofList]
  decide +kernel
/-- a form feed inside a line ends nothing -/
example : splitLines (lit "a\x0cb\x0bc\x1cd\x85e") = [lit "a\x0cb\x0bc\x1cd\x85e"] := by
  repeat rw [lit_ofList]
  decide +kernel
example : splitLines (lit "a\r\nb\rc\n") = [lit "a", lit "b", lit "c", []] := by
  repeat rw [lit_ofList]
  decide +kernel
example : parseRobots (lit "\xef\xbb\xbfUser-agent: *\nDisallow: /x") = [⟨[[42]], [(false, lit "/x")]⟩] := by
  repeat rw [lit_ofList]
  decide +kernel
/-- a blank line does end the record: the rule after it belongs to nobody -/
example : parseRobots (lit "User-agent: *\n\nDisallow: /x") = [] := by
  repeat rw [lit_ofList]
  decide +kernel
example : emptyComment (lit "Disallow: /x # note") = lit "Disallow: /x #" := by
  repeat rw [lit_ofList]
  decide +kernel

end Wpull.Robots
