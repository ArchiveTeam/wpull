/-
C20 — With robots enabled, disallowed URLs are never requested.

The gate machine `Wpull.Robots.step` (any number of items working concurrently on any number of origins, any
interleaving of their `begin` / robots answer / page request steps, any robots.txt answers) keeps the invariant
`Inv`: every enabled step is an instance of `Inv.update`.  Then the rule matcher `ruleVerdict` against its declarative
meaning (`Proofs/Lemmas/Glob.lean`), and the `nofollow` directive in the HTML scraper.
-/
import Proofs.Lemmas.Glob
import Proofs.Lemmas.Lit
import Proofs.Lemmas.List
namespace Wpull.Robots

theorem poolGet_put (p : List (Origin × List RuleSet)) (o o' : Origin) (rs : List RuleSet) :
    poolGet (poolPut p o rs) o' = if o' = o then some rs else poolGet p o' := by
  by_cases h : o' = o
  · simp [poolGet, poolPut, h]
  · have h1 : (o == o') = false := by simpa using fun e => h e.symm
    simp only [poolGet, poolPut, List.find?_cons, h1, if_neg h, List.find?_filter]
    congr 2
    funext x
    by_cases hx : x.1 = o' <;> simp [hx, h]

theorem getItem_some {l : List Item} {i : ItemId} {it : Item} (h : getItem l i = some it) : it ∈ l ∧ it.id = i :=
  ⟨List.mem_of_find?_eq_some h, by simpa using List.find?_some h⟩

theorem setPC_ids (l : List Item) (i : ItemId) (pc : PC) (d : Option (List RuleSet)) :
    (setPC l i pc d).map (·.id) = l.map (·.id) := by
  simp only [setPC, List.map_map]
  apply List.map_congr_left
  intro x _; simp only [Function.comp]; split <;> rfl

theorem mem_setPC {l : List Item} {i : ItemId} {pc : PC} {d : Option (List RuleSet)} {x : Item} :
    x ∈ setPC l i pc d ↔
      (∃ y ∈ l, y.id = i ∧ x = { y with pc := pc, decided := if d.isSome then d else y.decided }) ∨ (x ∈ l ∧ x.id ≠ i) := by
  simp only [setPC, List.mem_map]
  constructor
  · rintro ⟨y, hy, rfl⟩
    by_cases hi : y.id = i
    · exact Or.inl ⟨y, hy, hi, by simp [hi]⟩
    · exact Or.inr (by simp [hi, hy])
  · rintro (⟨y, hy, hi, rfl⟩ | ⟨hx, hi⟩)
    · exact ⟨y, hy, by simp [hi]⟩
    · exact ⟨x, hx, by simp [hi]⟩

theorem mem_setPC_of_getItem {l : List Item} (hn : (l.map (·.id)).Nodup) {i : ItemId} {it : Item}
    (hg : getItem l i = some it) {pc : PC} {d : Option (List RuleSet)} {x : Item} :
    x ∈ setPC l i pc d ↔
      x = { it with pc := pc, decided := if d.isSome then d else it.decided } ∨ (x ∈ l ∧ x.id ≠ i) := by
  obtain ⟨hm, hid⟩ := getItem_some hg
  rw [mem_setPC]
  refine or_congr_left ⟨?_, fun h => ⟨it, hm, hid, h⟩⟩
  rintro ⟨y, hy, hi, rfl⟩
  rw [List.eq_of_nodup_map hn hy hm (hi.trans hid.symm)]

/-- origins whose robots.txt the pool obtained, according to the log -/
def loadedOf : List Req → List Origin
  | [] => []
  | .loaded o :: t => o :: loadedOf t
  | _ :: t => loadedOf t

theorem loadedOf_append (a b : List Req) : loadedOf (a ++ b) = loadedOf a ++ loadedOf b := by
  induction a with
  | nil => rfl
  | cons x t ih => cases x <;> simp [loadedOf, ih]

/-- the order discipline of a request log, given the origins already obtained -/
def ordered : List Origin → List Req → Bool
  | _, [] => true
  | ld, .robots o _ :: t => !ld.contains o && ordered ld t
  | ld, .loaded o :: t => ordered (o :: ld) t
  | ld, .page _ o :: t => ld.contains o && ordered ld t

theorem ordered_append (ld : List Origin) (l m : List Req) :
    ordered ld (l ++ m) = (ordered ld l && ordered ((loadedOf l).reverse ++ ld) m) := by
  induction l generalizing ld with
  | nil => simp [ordered, loadedOf]
  | cons x t ih => cases x <;> simp [ordered, loadedOf, ih, Bool.and_assoc]

/-- `decided` also says that the pool holds the robots.txt of the item's origin: with `loadedPool` that is what
puts a `loaded` in front of its page request when `ord` is re-established. -/
structure Inv (ua : Str) (s : St) : Prop where
  ids : (s.items.map (·.id)).Nodup
  decided : ∀ it ∈ s.items, (it.pc = .allowed ∨ it.pc = .requested) →
      ∃ rs, it.decided = some rs ∧ isAllowed rs ua it.target = true ∧ (poolGet s.pool it.origin).isSome = true
  pageLog : ∀ i o, Req.page i o ∈ s.log → ∃ it ∈ s.items, it.id = i ∧ it.origin = o ∧ it.pc = .requested
  ord : ordered [] s.log = true
  loadedPool : ∀ o, (poolGet s.pool o).isSome = true ↔ o ∈ loadedOf s.log

def initSt (items : List Item) : St := ⟨[], items, []⟩

/-- reachable by `step` from `initSt items` (the model's `run` folds the same `step`; no lemma here speaks of it) -/
inductive Reach (ua : Str) (items : List Item) : St → Prop
  | init : Reach ua items (initSt items)
  | step {s s' : St} {e : Ev} : Reach ua items s → step ua s e = some s' → Reach ua items s'

theorem inv_init (ua : Str) (items : List Item) (hn : (items.map (·.id)).Nodup)
    (hidle : ∀ it ∈ items, it.pc = .idle) : Inv ua (initSt items) where
  ids := hn
  decided it hit h := by rw [hidle it hit] at h; rcases h with h | h <;> cases h
  pageLog _ _ h := nomatch h
  ord := rfl
  loadedPool := by intro o; simp [initSt, poolGet, loadedOf]

/-- Every step of the gate has this shape: one item that has not been requested yet gets a new `pc`
(and perhaps a verdict `d`), the pool gains what `ev` says was loaded, `ev` is appended to the log.
The invariant survives if the new `pc` is justified and `ev` is in order after the old log. -/
theorem Inv.update {ua : Str} {s : St} (hi : Inv ua s) {i : ItemId} {it : Item} (hg : getItem s.items i = some it)
    (hnr : it.pc ≠ .requested) {pool' : List (Origin × List RuleSet)} {pc : PC} {d : Option (List RuleSet)}
    {ev log' : List Req} (hlog : log' = s.log ++ ev)
    (hpool : ∀ o, (poolGet pool' o).isSome = true ↔ (poolGet s.pool o).isSome = true ∨ o ∈ loadedOf ev)
    (hdec : pc = .allowed ∨ pc = .requested → ∃ rs, (if d.isSome then d else it.decided) = some rs ∧
      isAllowed rs ua it.target = true ∧ (poolGet pool' it.origin).isSome = true)
    (hpage : ∀ j o, Req.page j o ∈ ev → j = i ∧ o = it.origin ∧ pc = .requested)
    (hord : ordered (loadedOf s.log).reverse ev = true) :
    Inv ua ⟨pool', setPC s.items i pc d, log'⟩ where
  ids := by simpa [setPC_ids] using hi.ids
  decided := by
    intro x hx hxp
    rcases (mem_setPC_of_getItem hi.ids hg).mp hx with rfl | ⟨hx', _⟩
    · exact hdec hxp
    · obtain ⟨rs, h1, h2, h3⟩ := hi.decided x hx' hxp
      exact ⟨rs, h1, h2, (hpool _).mpr (Or.inl h3)⟩
  pageLog := by
    intro j o hj
    rcases List.mem_append.mp (hlog ▸ hj) with hj | hj
    · obtain ⟨y, hy, h1, h2, h3⟩ := hi.pageLog j o hj
      refine ⟨y, (mem_setPC_of_getItem hi.ids hg).mpr (Or.inr ⟨hy, fun e => hnr ?_⟩), h1, h2, h3⟩
      rwa [← List.eq_of_nodup_map hi.ids hy (getItem_some hg).1 (e.trans (getItem_some hg).2.symm)]
    · obtain ⟨rfl, rfl, rfl⟩ := hpage j o hj
      exact ⟨_, (mem_setPC_of_getItem hi.ids hg).mpr (Or.inl rfl), (getItem_some hg).2, rfl, rfl⟩
  ord := by subst hlog; rw [ordered_append, hi.ord, List.append_nil]; exact hord
  loadedPool := by intro o; rw [hlog, hpool, hi.loadedPool, loadedOf_append, List.mem_append]

theorem verdictPC_allowed {rs : List RuleSet} {ua t : Str} (h : verdictPC rs ua t = .allowed ∨ verdictPC rs ua t = .requested) :
    isAllowed rs ua t = true := by
  unfold verdictPC at h
  split at h
  · assumption
  · rcases h with h | h <;> cases h

/-- The guard of every case of `step`: the item the event names must exist and be in the state the event
starts from. -/
theorem guarded_eq_some {o : Option Item} {pc : PC} {f : Item → Option St} {s' : St}
    (h : (match o with | some it => if it.pc != pc then none else f it | none => none) = some s') :
    ∃ it, o = some it ∧ it.pc = pc ∧ f it = some s' := by
  cases o with
  | none => cases h
  | some it => exact ⟨it, rfl, by simpa using h⟩

theorem inv_step {ua : Str} {s s' : St} {e : Ev} (hi : Inv ua s) (h : step ua s e = some s') : Inv ua s' := by
  cases e with
  | begin i =>
    obtain ⟨it, hg, hidle, h⟩ := guarded_eq_some h
    split at h
    · -- pool hit
      rename_i rs hp
      cases h
      exact hi.update hg (by simp [hidle]) (hlog := (List.append_nil _).symm) (hpool := by simp [loadedOf])
        (hdec := fun hv => ⟨rs, rfl, verdictPC_allowed hv, by simp [hp]⟩) (hpage := by simp) (hord := rfl)
    · -- pool miss: robots.txt requested
      rename_i hp
      cases h
      refine hi.update hg (by simp [hidle]) (hlog := rfl) (hpool := by simp [loadedOf]) (hdec := by simp)
        (hpage := by simp) (hord := ?_)
      simpa [ordered, ← hi.loadedPool] using hp
  | answer i a =>
    obtain ⟨it, hg, hwait, h⟩ := guarded_eq_some h
    have load : ∀ (rs : List RuleSet) (pc : PC),
        (pc = .allowed ∨ pc = .requested → isAllowed rs ua it.target = true) →
        Inv ua { s with pool := poolPut s.pool it.origin rs, items := setPC s.items i pc (some rs),
                        log := s.log ++ [.loaded it.origin] } := fun rs pc hpcv =>
      hi.update hg (by simp [hwait]) (hlog := rfl)
        (hpool := fun o => by by_cases ho : o = it.origin <;> simp [poolGet_put, loadedOf, ho])
        (hdec := fun hv => ⟨rs, rfl, hpcv hv, by simp [poolGet_put]⟩) (hpage := by simp) (hord := rfl)
    have fail : Inv ua { s with items := setPC s.items i .postponed } :=
      hi.update hg (by simp [hwait]) (hlog := (List.append_nil _).symm) (hpool := by simp [loadedOf])
        (hdec := by simp) (hpage := by simp) (hord := rfl)
    cases a with
    | rules rs => cases h; exact load rs _ verdictPC_allowed
    | blank => cases h; exact load [] .allowed (fun _ => rfl)
    | serverError | netError => cases h; exact fail
  | request i =>
    obtain ⟨it, hg, hal, h⟩ := guarded_eq_some h
    cases h
    obtain ⟨rs, hd1, hd2, hd3⟩ := hi.decided it (getItem_some hg).1 (Or.inl hal)
    refine hi.update hg (by simp [hal]) (hlog := rfl) (hpool := by simp [loadedOf])
      (hdec := fun _ => ⟨rs, hd1, hd2, hd3⟩) (hpage := by simp) (hord := ?_)
    simpa [ordered] using (hi.loadedPool _).mp hd3

theorem reach_inv {ua : Str} {items : List Item} {s : St} (hn : (items.map (·.id)).Nodup)
    (hidle : ∀ it ∈ items, it.pc = .idle) (h : Reach ua items s) : Inv ua s := by
  induction h with
  | init => exact inv_init ua items hn hidle
  | step _ hs ih => exact inv_step ih hs

theorem Inv.requested {ua : Str} {s : St} (hi : Inv ua s) {it : Item} (hit : it ∈ s.items) {o : Origin}
    (hp : Req.page it.id o ∈ s.log) : it.pc = .requested := by
  obtain ⟨y, hy, h1, _, h3⟩ := hi.pageLog it.id o hp
  rwa [← List.eq_of_nodup_map hi.ids hy hit h1]

variable {ua : Str} {items : List Item} {s : St}

/-- **gate** — In every reachable state of every interleaving: a page request in the log belongs to an item whose
verdict was computed from a robots.txt rule set (`decided`) that allows its URL for the crawler's agent, and the
pool holds the robots.txt of its origin.  No disallowed URL is requested. -/
theorem gate (hn : (items.map (·.id)).Nodup) (hidle : ∀ it ∈ items, it.pc = .idle) (h : Reach ua items s)
    (i : ItemId) (o : Origin) (hp : Req.page i o ∈ s.log) :
    ∃ it ∈ s.items, it.id = i ∧ it.origin = o ∧
      ∃ rs, it.decided = some rs ∧ isAllowed rs ua it.target = true ∧ (poolGet s.pool o).isSome = true := by
  have hi := reach_inv hn hidle h
  obtain ⟨it, hit, h1, h2, h3⟩ := hi.pageLog i o hp
  obtain ⟨rs, hd⟩ := hi.decided it hit (Or.inr h3)
  exact ⟨it, hit, h1, h2, rs, hd.1, hd.2.1, h2 ▸ hd.2.2⟩

/-- **robots_first_and_never_again** — The request log of every run is `ordered`: a page of an origin is requested
only after that origin's robots.txt was obtained, and robots.txt of an origin is never requested again once
obtained. -/
theorem robots_first_and_never_again (hn : (items.map (·.id)).Nodup) (hidle : ∀ it ∈ items, it.pc = .idle)
    (h : Reach ua items s) : ordered [] s.log = true :=
  (reach_inv hn hidle h).ord

/-- what `ordered` says, spelled out for one log position -/
theorem ordered_split (ld : List Origin) (l1 l2 : List Req) (e : Req) (h : ordered ld (l1 ++ e :: l2) = true) :
    (∀ i o, e = .page i o → o ∈ loadedOf l1 ++ ld) ∧ (∀ o i, e = .robots o i → o ∉ loadedOf l1 ++ ld) := by
  constructor
  · rintro i o rfl
    simp only [ordered_append, ordered, Bool.and_eq_true] at h
    simpa using h.2.1
  · rintro o i rfl
    simp only [ordered_append, ordered, Bool.and_eq_true] at h
    simpa using h.2.1

/-- **server_error_postpones** — An item that stands postponed (its robots.txt fetch ended in a server or
network error) has not been requested. -/
theorem server_error_postpones (hn : (items.map (·.id)).Nodup) (hidle : ∀ it ∈ items, it.pc = .idle)
    (h : Reach ua items s) (it : Item) (hit : it ∈ s.items) (hp : it.pc = .postponed) (o : Origin) :
    Req.page it.id o ∉ s.log :=
  fun hc => nomatch hp.symm.trans ((reach_inv hn hidle h).requested hit hc)

/-- **denied_never_requested** — An item that stands denied (negative robots verdict) has not been requested. -/
theorem denied_never_requested (hn : (items.map (·.id)).Nodup) (hidle : ∀ it ∈ items, it.pc = .idle)
    (h : Reach ua items s) (it : Item) (hit : it ∈ s.items) (hp : it.pc = .denied) (o : Origin) :
    Req.page it.id o ∉ s.log :=
  fun hc => nomatch hp.symm.trans ((reach_inv hn hidle h).requested hit hc)

/-- **missing_allows** — A robots.txt that is missing (a protocol error, a status that is neither 5xx nor 200, or
a 200 whose content cannot be read) lets the waiting item through and records an empty rule set. -/
theorem missing_allows {s' : St} {i : ItemId} (h : step ua s (.answer i .blank) = some s') :
    ∃ it, getItem s.items i = some it ∧ poolGet s'.pool it.origin = some [] ∧
      ∀ x ∈ s'.items, x.id = i → x.pc = .allowed := by
  obtain ⟨it, hg, -, h⟩ := guarded_eq_some h
  cases h
  refine ⟨it, hg, by simp [poolGet_put], fun x hx hxi => ?_⟩
  rcases mem_setPC.mp hx with ⟨y, _, _, rfl⟩ | ⟨_, hne⟩
  · rfl
  · exact absurd hxi hne

/-- the empty rule set, which a missing robots.txt leaves in the pool (`missing_allows`), allows everything -/
theorem blank_allows_all (ua t : Str) : isAllowed [] ua t = true := rfl

/-- **wildcard_rule_applies** — A rule whose path contains `*` or ends in `$` applies to a target exactly when the
target is  part₀ ++ gap ++ part₁ ++ … ++ partₙ  for the parts of the path between the `*`s, followed by anything
unless the rule ends in `$` (`GlobSpec`, GYM2008): the executable matcher of the gate has the documented wildcard
semantics. -/
theorem wildcard_rule_applies (r : Rule) (t : Str)
    (hw : (r.path.contains 42 || r.path.getLast? == some 36) = true) :
    (ruleVerdict r t = some r.allow ↔
      GlobSpec (r.path.getLast? == some 36)
        (splitOn1 (if (r.path.getLast? == some 36) = true then r.path.dropLast else r.path) 42) t) ∧
    (ruleVerdict r t = some r.allow ∨ ruleVerdict r t = none) := by
  rw [← globMatch_iff, ruleVerdict]
  simp only [hw, if_true]
  cases globMatch _ _ t <;> simp

/-- a rule without wildcard applies exactly to the targets its path is a prefix of (the blank path: to every target) -/
theorem plain_rule_applies (r : Rule) (t : Str)
    (hw : (r.path.contains 42 || r.path.getLast? == some 36) = false) :
    (ruleVerdict r t).isSome = true ↔ ∃ rest, t = r.path ++ rest := by
  rw [← startsWith_iff, ruleVerdict]
  simp only [hw, Bool.false_eq_true, if_false]
  cases startsWith t r.path <;> simp

def demoRules : List RuleSet := [⟨[lit "wpull"], [⟨true, lit "/private/x"⟩, ⟨false, lit "/private"⟩]⟩,
                                  ⟨[[42]], [⟨false, lit "/*.png$"⟩]⟩]
example : isAllowed demoRules (lit "wpull/2.0") (lit "/private/x") = true := by
  unfold demoRules
  repeat rw [lit_ofList]
  decide +kernel
example : isAllowed demoRules (lit "wpull/2.0") (lit "/private/y") = false := by
  unfold demoRules
  repeat rw [lit_ofList]
  decide +kernel
example : isAllowed demoRules (lit "other") (lit "/a/b.png") = false := by
  unfold demoRules
  repeat rw [lit_ofList]
  decide +kernel
example : isAllowed demoRules (lit "other") (lit "/a/b.png?x") = true := by
  unfold demoRules
  repeat rw [lit_ofList]
  decide +kernel

/-- two items of one origin racing for robots.txt, one of them disallowed -/
example : (run (lit "wpull") (initSt [⟨1, 0, lit "/a", .idle, none⟩, ⟨2, 0, lit "/private/y", .idle, none⟩])
    [.begin 1, .begin 2, .answer 1 (.rules demoRules), .request 1, .answer 2 (.rules demoRules)]).map
      (fun s => (s.log, s.items.map (·.pc))) =
    some ([.robots 0 1, .robots 0 2, .loaded 0, .page 1 0, .loaded 0], [.requested, .denied]) := by
  unfold demoRules
  repeat rw [lit_ofList]
  decide +kernel

theorem processElements_eq (robots : Bool) (es : List Elem) :
    processElements robots es = (allLinks es, robots && es.any (·.nofollow)) := by
  induction es with
  | nil => simp [processElements, allLinks]
  | cons e es ih => simp [processElements, ih, allLinks, Bool.and_or_distrib_left]

theorem scrapeLinks_eq (robots : Bool) (es : List Elem) :
    scrapeLinks robots es =
      if robots && es.any (·.nofollow) then (allLinks es).filter (fun c => !c.linked) else allLinks es := by
  rw [scrapeLinks, processElements_eq]

/-- **nofollow_drops_every_link** — With robots checking on, a page that declares `nofollow` anywhere in the document
(before or after the links, once or several times) yields no context that would be followed as a link. -/
theorem nofollow_drops_every_link (es : List Elem) (h : ∃ e ∈ es, e.nofollow = true) :
    ∀ c ∈ scrapeLinks true es, c.linked = false := by
  intro c hc
  rw [scrapeLinks_eq, Bool.true_and, List.any_eq_true.mpr h] at hc
  simpa using (List.mem_filter.mp hc).2

/-- with or without `nofollow`, the page requisites of a page are all kept, in document order -/
theorem nofollow_keeps_requisites (robots : Bool) (es : List Elem) :
    (scrapeLinks robots es).filter (fun c => !c.linked) = (allLinks es).filter (fun c => !c.linked) := by
  rw [scrapeLinks_eq]
  split
  · simp
  · rfl

/-- without the directive, or with robots checking off, nothing is dropped -/
theorem no_directive_keeps_all (robots : Bool) (es : List Elem)
    (h : robots = false ∨ ∀ e ∈ es, e.nofollow = false) : scrapeLinks robots es = allLinks es := by
  rw [scrapeLinks_eq, if_neg]
  rcases h with rfl | h
  · simp
  · simpa using fun _ => h

/-- the position of the `nofollow` element in the document is irrelevant -/
theorem nofollow_position_irrelevant (robots : Bool) (a b : List Elem) (m : Elem) (hm : m.links = []) :
    scrapeLinks robots (a ++ m :: b) = scrapeLinks robots (m :: a ++ b) := by
  simp only [scrapeLinks_eq, allLinks, List.flatMap_append, List.flatMap_cons, hm, List.nil_append,
    List.any_append, List.any_cons, List.cons_append, Bool.or_left_comm]

example : scrapeLinks true [⟨false, [⟨1, false, true⟩, ⟨2, true, false⟩]⟩, ⟨true, []⟩] = [⟨2, true, false⟩] := by decide
example : scrapeLinks false [⟨false, [⟨1, false, true⟩]⟩, ⟨true, []⟩] = [⟨1, false, true⟩] := by decide

end Wpull.Robots
