/-
C05 — Every WARC file is a valid record sequence with correct lengths and digests: property theorems over the
model `Wpull.Warc`.  Opaque parameters: `e.H = base32 ∘ sha1`, `e.member` = the gzip member written for a
record, `e.uuid`, `e.date`.  `parseRecord` (`Proofs/Lemmas/Warc.lean`) is a strict reader of one record, a
specification.  Not proved: that the recorder's records meet the hypotheses of `serialize_parse`.
-/
import Proofs.Lemmas.WarcHistory
import Proofs.Lemmas.Lit
namespace Wpull.Warc

/-- **serialize_parse** — "complete WARC/1.0 record": from the serialisation of a record whose field names and
values are free of CR/LF (names also of `:` and leading blanks) and that carries Content-Length once, as the
decimal block length, the strict reader `parseRecord` recovers the named fields, the block and the bytes that
follow. -/
theorem serialize_parse (r : Record) (rest : Bytes) (h : FieldsOk r.fields.getAll)
    (hlen : (r.fields.getAll.map encPair).filter (fun p => p.1 = lenName) =
      [(lenName, utf8 (decimal r.block.length))]) :
    parseRecord (serialize r ++ rest) = some (r.fields.getAll.map encPair, r.block, rest) := by
  have hv : (versionLine ++ crlf).length = 10 := by decide
  have e : serialize r ++ rest = (versionLine ++ crlf) ++
      (pairsToStr (r.fields.getAll.map encPair) ++ crlf ++ (r.block ++ crlf ++ crlf ++ rest)) := by
    simp [serialize, serializePairs, utf8_pairsToStr]
  have hd : utf8 (decimal r.block.length) = decimal r.block.length :=
    utf8_ascii _ fun c hc => by have := decimal_digits _ c hc; simp [isAsciiDigit] at this; omega
  -- one LF per field line, so the length of the input is fuel enough
  have hfuel := pairsToStr_count_lf _ h.enc ▸
    List.count_le_length (a := 10) (l := pairsToStr (r.fields.getAll.map encPair))
  rw [e, parseRecord, List.take_left' hv, List.drop_left' hv,
    parseFieldsB_lines _ _ _ (by simp only [List.length_append, crlf, List.length_cons]; omega) h.enc]
  simp [hlen, hd, parseDec_decimal, crlf]

example : parseRecord (serializePairs [(kType, lit "response"), (kLen, lit "3")] [1, 2, 3] ++ [7]) =
    some ([(utf8 kType, lit "response"), (utf8 kLen, lit "3")], [1, 2, 3], [7]) := by decide +kernel

/-- the strict reader refuses a folded header line -/
example : parseRecord (lit "WARC/1.0\r\nA: b\r\n c\r\nContent-Length: 0\r\n\r\n\r\n\r\n") = none := by
  rw [lit_ofList]; decide +kernel

/-- **one_line_per_field** — given CR/LF-free names and values, the header part of the serialisation holds
exactly one LF per field pair. -/
theorem one_line_per_field (ps : List (Str × Str)) (h : FieldsOk ps) :
    (utf8 (pairsToStr ps)).count 10 = ps.length := by
  rw [utf8_pairsToStr, pairsToStr_count_lf _ h.enc, List.length_map]

example : (utf8 (pairsToStr [(kType, lit "a"), (kLen, [])])).count 10 = 2 := by decide +kernel
/-- a value containing LF breaks it -/
example : (utf8 (pairsToStr [(kType, lit "a\nb")])).count 10 ≠ 1 := by decide +kernel

/-- value sources: decimal lengths, record ids and digest fields are CR/LF-free (given that
the uuid / base32 strings are) -/
theorem value_sources_one_line (n : Nat) (u d : Str) (hu : 13 ∉ u ∧ 10 ∉ u) (hd : 13 ∉ d ∧ 10 ∉ d) :
    (13 ∉ decimal n ∧ 10 ∉ decimal n) ∧ (13 ∉ recordIdOf u ∧ 10 ∉ recordIdOf u) ∧
    (13 ∉ sha1Prefix ++ d ∧ 10 ∉ sha1Prefix ++ d) := by
  have h1 : 13 ∉ lit "<urn:uuid:" ∧ 10 ∉ lit "<urn:uuid:" ∧ 13 ∉ lit ">" ∧ 10 ∉ lit ">" ∧
      13 ∉ sha1Prefix ∧ 10 ∉ sha1Prefix := by
    repeat rw [lit_ofList]
    decide +kernel
  simp [decimal_no_crlf n, recordIdOf, hu, hd, h1]

/-- **read_cdx_columns_one_line** — the value source of `WARC-Refers-To` (--warc-dedup: CDX index ->
`read_cdx` -> URL table -> `_record_revisit`): whether an index line ends in LF, CRLF or nothing (end of file),
no column `read_cdx` returns for it holds CR or LF, so a record id taken from the index stays on one header line. -/
theorem read_cdx_columns_one_line (sep : Nat) (body term : Str) (hb : 13 ∉ body ∧ 10 ∉ body)
    (ht : term = [] ∨ term = [10] ∨ term = [13, 10]) :
    ∀ col ∈ readCdxLine sep (body ++ term), 13 ∉ col ∧ 10 ∉ col := by
  intro col hcol
  have hws : ∀ c ∈ term, isPySpace c = true := by
    rcases ht with rfl | rfl | rfl <;> decide
  rw [readCdxLine, strip_eq, strip_append_ws body term hws, splitOn1_eq_splitC] at hcol
  have hsub : col ⊆ body := fun x hx => strip_subset body ((mem_splitC sep _ col hcol).2 hx)
  exact ⟨fun h => hb.1 (hsub h), fun h => hb.2 (hsub h)⟩

example : readCdxLine 32 (lit "http://a/ 1 t/s 200 D 5 0 f.warc <urn:uuid:1>\r\n") =
    [lit "http://a/", lit "1", lit "t/s", lit "200", lit "D", lit "5", lit "0", lit "f.warc", lit "<urn:uuid:1>"] := by
  repeat rw [lit_ofList]
  decide +kernel

/-- **content_length_is_block_length** — after `set_length_and_maybe_checksums` (either
branch) the Content-Length field is the decimal length of the block, the block is untouched,
and the decimal string reads back as that number. -/
theorem content_length_is_block_length (d : Bool) (H : Bytes → Str) (r : Record) (off : Option Nat) :
    (setLenChk d H r off).get? kLen = some (decimal r.block.length) ∧
    (setLenChk d H r off).block = r.block ∧ parseDec? (decimal r.block.length) = some r.block.length := by
  cases d <;> cases off <;> simp [setLenChk, computeChecksum, setContentLength, Record.get?_set, parseDec_decimal]

example : (setLenChk false (fun _ => []) { idx := 0, fields := [], block := List.replicate 12 0 } none).get? kLen
    = some (lit "12") := by decide +kernel

/-- **ends_with_two_crlf** — every serialised record is `WARC/1.0` CRLF … block CRLF CRLF. -/
theorem ends_with_two_crlf (r : Record) :
    ∃ head, serialize r = lit "WARC/1.0" ++ [13, 10] ++ head ++ r.block ++ [13, 10, 13, 10] :=
  ⟨utf8 (pairsToStr r.fields.getAll) ++ crlf, by simp [serialize, serializePairs, versionLine, crlf]⟩

/-- with a payload offset (request and response records) and without (all other records): block digest over
the block, payload digest over the block from the offset on -/
theorem checksum_fields (H : Bytes → Str) (r : Record) (o : Nat) :
    (computeChecksum H r (some o)).get? kBlockDigest = some (sha1Prefix ++ H r.block) ∧
    (computeChecksum H r (some o)).get? kPayloadDigest = some (sha1Prefix ++ H (r.block.drop o)) ∧
    (computeChecksum H r none).get? kBlockDigest = some (sha1Prefix ++ H r.block) := by
  simp [computeChecksum, Record.get?_set, normalizeName_ne]

/-- **payload_offset_is_wire_header_length** — the offset the recorder hashes from is the
length of the header block as received, whatever follows it. -/
theorem payload_offset_is_wire_header_length (hdr body : Bytes) (h : WireHeader hdr) :
    payloadOffset (hdr ++ body) = hdr.length := by
  simp [payloadOffset, scanOpt_wire hdr body h]

/-- **response_digests** — for every wire header block `hdr` that `Stream.read_response` accepts (any line ends,
spacing, folding, size) and every body, with digests on: the response (or revisit) record `end_response` writes has
payload digest = `sha1:` H(the bytes after the header block), block digest = `sha1:` H(its block), Content-Length =
its block length, and its block is the full wire message — or, for a revisit, exactly the wire header block. -/
theorem response_digests (c : Cfg) (e : Env) (r : Record) (hdr body : Bytes) (rev : Option Str)
    (hw : WireHeader hdr) (hd : c.digests = true) :
    let out := finishResponse c e r (hdr ++ body) rev
    out.get? kPayloadDigest = some (sha1Prefix ++ e.H body) ∧
    out.get? kBlockDigest = some (sha1Prefix ++ e.H out.block) ∧
    out.get? kLen = some (decimal out.block.length) ∧
    (out.block = hdr ++ body ∨ (out.block = hdr ∧ out.get? kType = some (lit "revisit"))) := by
  simp only [finishResponse, payload_offset_is_wire_header_length hdr body hw, hd, setLenChk, if_true]
  -- a revisit record is the response record cut down to the header, its four extra fields set last
  split
  · split <;> simp [computeChecksum, Record.get?_set, normalizeName_ne]
  · simp [computeChecksum, Record.get?_set, normalizeName_ne]

/-- LF-only, double-space status line, folded field: offset = 44 = the wire header length
(a re-serialisation of the parsed header has 46 bytes) -/
example : payloadOffset (lit "HTTP/1.1  200 OK\nX: a\n b\nContent-Type: t/s\n\nBODY\n\nmore") = 44 := by
  rw [lit_ofList]; decide +kernel
example : WireHeader (lit "HTTP/1.1 200 OK\nX: a\n\n") := by
  rw [lit_ofList]
  exact .of_lines [lit "HTTP/1.1 200 OK", lit "X: a"] [10] (by decide +kernel) (by decide +kernel)

/-- **file_is_record_concat** — after any history of session events (any interleaving, rollover, aborted sessions)
and the final `close()`, each file this life wrote to (when appending, every file) is what it held before (nothing
when not appending) followed by the records logged for it, in order — one `member` (gzip) or one plain
serialisation per record, nothing else. -/
theorem file_is_record_concat (c : Cfg) (e : Env) (existing : List (FName × Bytes)) (ops : List Op)
    (lb : Option Bytes) (f : FName)
    (hf : (∃ en ∈ (life c e existing ops lb).log, en.file = f) ∨ c.appending = true) :
    content (life c e existing ops lb) f =
      preOf c existing f ++ ((((life c e existing ops lb).log.filter (fun en => en.file = f)).map
        (fun en => if c.compress then e.member en.record.idx (serialize en.record) else serialize en.record)).flatten) :=
  (life_final c e existing ops lb).concat.weak f hf

/-- **warcinfo_id_points_to_file_head** — in every history, every record written carries as
WARC-Warcinfo-ID the WARC-Record-ID of the first record this life wrote to the same file, and
that first record is a warcinfo record. -/
theorem warcinfo_id_points_to_file_head (c : Cfg) (e : Env) (existing : List (FName × Bytes)) (ops : List Op)
    (lb : Option Bytes) :
    ∀ en ∈ (life c e existing ops lb).log, ∃ w,
      ((life c e existing ops lb).log.filter (fun x => x.file = en.file)).head? = some w ∧
      w.record.get? kType = some (lit "warcinfo") ∧
      en.record.get? kWarcinfoId = w.record.get? kId :=
  (life_final c e existing ops lb).w

/-- **ids_unique (creation level)** — record ids are an injective function of the uuid drawn for the record, and
neither length/digest computation nor Warcinfo-ID stamping touches the id.  That the ids of a history are pairwise
distinct is not proved. -/
theorem ids_unique (u v : Str) (r : Record) (d : Bool) (H : Bytes → Str) (off : Option Nat) (w : Str) :
    (recordIdOf u = recordIdOf v → u = v) ∧
    ((setLenChk d H r off).set kWarcinfoId w).get? kId = r.get? kId := by
  refine ⟨fun h => ?_, ?_⟩
  · simpa [recordIdOf] using h
  · cases d <;> cases off <;>
      simp [setLenChk, computeChecksum, setContentLength, Record.get?_set, normalizeName_ne]

-- the history theorems are not vacuous: a one-exchange life with rollover writes 3 files
set_option maxRecDepth 100000 in
example :
    let c : Cfg := { compress := false, digests := true, cdx := true, appending := false, maxSize := some 0,
                     revisit := false, pfx := lit "o", software := lit "s", extra := [], wrapBuiltin := [[], [], []] }
    let e : Env := { H := fun b => decimal b.length, member := fun _ b => b, uuid := decimal, date := fun _ => lit "d",
                     ts := fun _ => lit "0" }
    let s := life c e [] [.beginRequest 0 (lit "u") (lit "i"), .endRequest 0 (lit "GET / HTTP/1.1\r\n\r\n") 18,
                          .beginResponse 0, .endResponse 0 (lit "HTTP/1.1 200 OK\r\n\r\nhi") none, .closeSession] (some [])
    (s.log.map (·.file) = [.numbered 0, .numbered 0, .numbered 0, .numbered 1, .metaF, .metaF]) ∧ s.cdxLines.length = 1 := by
  repeat rw [lit_ofList]
  decide +kernel

end Wpull.Warc
