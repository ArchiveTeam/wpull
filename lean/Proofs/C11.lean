/-
C11 — URL parsing and joining are total: any text gives a result or a ValueError.
`OnlyVE` function by function over the model `Wpull.Url` (every raise site is a `ValueError` subclass or passes on
what a callee raised), `parse_total` on top, then the callers and accessors.
Termination is Lean's own totality check of `Wpull.Url.parse` and of every accessor: all are structural
recursions (plus the digit fuel of `natDec`); there is no `partial def`.
-/
import Proofs.Lemmas.UrlInv
namespace Wpull.Url

/-- every exception a computation can raise is a `ValueError` (or a subclass) -/
def OnlyVE {α : Type} (x : Except PyExc α) : Prop := ∀ e, x = .error e → e.isa .ValueError = true

/-- what is assumed about the parameters (stdlib functions that are not modelled): each raises nothing but `ValueError`
subclasses (`UnicodeError`, `AddressValueError`); monitored by the harness on every sampled call -/
structure ParamsVE (c : Cfg) : Prop where
  encode : ∀ x, OnlyVE (c.encode x)
  idna : ∀ x, OnlyVE (c.idnaNA x)
  ipv6 : ∀ x, OnlyVE (c.ipv6 x)

theorem onlyVE_ok {α : Type} (a : α) : OnlyVE (Except.ok a : Except PyExc α) := by
  intro e h; cases h

theorem onlyVE_err {α : Type} {e : PyExc} (h : e.isa .ValueError = true) :
    OnlyVE (Except.error e : Except PyExc α) := by
  intro e' h'; cases h'; exact h

theorem OnlyVE.raise {α β : Type} {x : Except PyExc α} (hx : OnlyVE x) {e : PyExc} (h : x = .error e) :
    OnlyVE (Except.error e : Except PyExc β) :=
  onlyVE_err (hx e h)

theorem pyInt_onlyVE (b : Nat) (s : Str) : OnlyVE (pyInt b s) := by
  unfold pyInt
  -- sign and prefix only select the digits `a'` that are read; the five raise sites come after them
  extract_lets a
  split
  extract_lets a'
  clear_value a'
  split
  · exact onlyVE_err rfl
  split
  · exact onlyVE_err rfl
  split
  · exact onlyVE_err rfl
  split
  · exact onlyVE_err rfl
  split
  · exact onlyVE_err rfl
  · exact onlyVE_ok _

theorem encodeBy_onlyVE (f : Nat → Except PyExc Bytes) (hf : ∀ c, OnlyVE (f c)) :
    ∀ s, OnlyVE (encodeBy f s)
  | [] => onlyVE_ok _
  | c :: t => by
    unfold encodeBy
    split
    · exact (hf c).raise ‹_›
    split
    · exact (encodeBy_onlyVE f hf t).raise ‹_›
    · exact onlyVE_ok _

theorem utf8Enc1_onlyVE (c : Nat) : OnlyVE (utf8Enc1 c) := by
  rcases utf8Enc1_cases c with ⟨_, e⟩ | ⟨_, ⟨a, e, _⟩ | e⟩ <;> rw [e]
  · exact onlyVE_ok _
  · exact onlyVE_ok _
  · exact onlyVE_err rfl

theorem utf8Enc_onlyVE (s : Str) : OnlyVE (utf8Enc s) := encodeBy_onlyVE _ utf8Enc1_onlyVE s

theorem rangeEnc_onlyVE (N : Nat) (s : Str) :
    OnlyVE (encodeBy (fun c => if c < N then .ok [c] else .error .UnicodeEncodeError) s) := by
  refine encodeBy_onlyVE _ (fun c => ?_) s
  split
  · exact onlyVE_ok _
  · exact onlyVE_err rfl

theorem latin1Enc_onlyVE (s : Str) : OnlyVE (latin1Enc s) := rangeEnc_onlyVE 256 s
theorem asciiEnc_onlyVE (s : Str) : OnlyVE (asciiEnc s) := rangeEnc_onlyVE 128 s

theorem percentEncode_onlyVE {enc : Str → Except PyExc Bytes} (henc : ∀ x, OnlyVE (enc x))
    (set : List Nat) (t : Str) : OnlyVE (percentEncode enc set t) := by
  unfold percentEncode
  split
  · exact (henc _).raise ‹_›
  · exact onlyVE_ok _

theorem normWith_onlyVE {enc : Str → Except PyExc Bytes} (henc : ∀ x, OnlyVE (enc x))
    (set : List Nat) (t : Str) : OnlyVE (normWith enc set t) := by
  unfold normWith
  split
  · exact (percentEncode_onlyVE henc _ _).raise ‹_›
  · exact onlyVE_ok _

theorem normalizePath_onlyVE (c : Cfg) (hc : ParamsVE c) (p : Str) : OnlyVE (normalizePath c p) :=
  normWith_onlyVE hc.encode defaultSet _
theorem normalizeFragment_onlyVE (c : Cfg) (hc : ParamsVE c) (p : Str) : OnlyVE (normalizeFragment c p) :=
  normWith_onlyVE hc.encode fragmentSet p
theorem normalizeUsername_onlyVE (p : Str) : OnlyVE (normalizeUsername p) :=
  normWith_onlyVE utf8Enc_onlyVE usernameSet p
theorem normalizePassword_onlyVE (p : Str) : OnlyVE (normalizePassword p) :=
  normWith_onlyVE utf8Enc_onlyVE passwordSet p

theorem normalizeQuery_onlyVE (c : Cfg) (hc : ParamsVE c) (p : Str) : OnlyVE (normalizeQuery c p) := by
  unfold normalizeQuery percentEncodePlus
  split
  · rename_i h
    split at h
    · cases h; exact (percentEncode_onlyVE hc.encode _ _).raise ‹_›
    · cases h
  · exact onlyVE_ok _

theorem ipv4OfInt_onlyVE (v : Int) : OnlyVE (ipv4OfInt v) := by
  unfold ipv4OfInt
  split
  · exact onlyVE_err rfl
  · exact onlyVE_ok _

theorem ipv4Sum_onlyVE : ∀ l i, OnlyVE (ipv4Sum l i)
  | [], _ => onlyVE_ok _
  | p :: ps, i => by
    unfold ipv4Sum
    split
    · exact (pyInt_onlyVE _ _).raise ‹_›
    split
    · exact (ipv4Sum_onlyVE ps _).raise ‹_›
    · exact onlyVE_ok _

theorem normalizeIpv4_onlyVE (a : Str) : OnlyVE (normalizeIpv4 a) := by
  unfold normalizeIpv4
  simp only
  split
  · split
    · exact (pyInt_onlyVE _ _).raise ‹_›
    · exact ipv4OfInt_onlyVE _
  split
  · split
    · exact (ipv4Sum_onlyVE _ _).raise ‹_›
    · exact ipv4OfInt_onlyVE _
  · exact onlyVE_err rfl

theorem tryIpv4_onlyVE (h : Str) : OnlyVE (tryIpv4 h) := by
  unfold tryIpv4
  split
  · exact onlyVE_ok _
  split
  · exact onlyVE_ok _
  · -- the model keeps the (impossible) re-raise of a non-ValueError
    exact absurd (normalizeIpv4_onlyVE h _ ‹_›) ‹_›

theorem idnaEncode_onlyVE (c : Cfg) (hc : ParamsVE c) (h : Str) : OnlyVE (idnaEncode c h) := by
  unfold idnaEncode
  split
  · exact onlyVE_ok _
  split
  · split
    · exact onlyVE_ok _
    · exact onlyVE_err rfl
  · exact hc.idna _

theorem normalizeHostname_onlyVE (c : Cfg) (hc : ParamsVE c) (h : Str) : OnlyVE (normalizeHostname c h) := by
  unfold normalizeHostname
  split
  · split
    · exact onlyVE_err rfl
    · exact (idnaEncode_onlyVE c hc _).raise ‹_›
  split
  · exact onlyVE_err rfl
  simp only
  split
  · split
    · exact (idnaEncode_onlyVE c hc _).raise ‹_›
    · exact onlyVE_ok _
  · exact onlyVE_ok _

theorem parseHostname_onlyVE (c : Cfg) (hc : ParamsVE c) (h : Str) : OnlyVE (parseHostname c h) := by
  unfold parseHostname parseIpv6Hostname
  split
  · split
    · exact onlyVE_err rfl
    split
    · exact onlyVE_err rfl
    · exact hc.ipv6 _
  split
  · exact (tryIpv4_onlyVE _).raise ‹_›
  split
  · exact (normalizeHostname_onlyVE c hc _).raise ‹_›
  split
  · exact (tryIpv4_onlyVE _).raise ‹_›
  split
  · exact onlyVE_err rfl
  · exact onlyVE_ok _

theorem parseHost_onlyVE (c : Cfg) (hc : ParamsVE c) (h : Str) : OnlyVE (parseHost c h) := by
  unfold parseHost
  split
  · split
    · exact (parseHostname_onlyVE c hc _).raise ‹_›
    · exact onlyVE_ok _
  simp only
  split
  · split
    · exact (pyInt_onlyVE _ _).raise ‹_›
    split
    · exact onlyVE_err rfl
    split
    · exact (parseHostname_onlyVE c hc _).raise ‹_›
    · exact onlyVE_ok _
  · split
    · exact (parseHostname_onlyVE c hc _).raise ‹_›
    · exact onlyVE_ok _

theorem parseNet_onlyVE (c : Cfg) (hc : ParamsVE c) (url scheme rem : Str) (dp : Nat) :
    OnlyVE (parseNet c url scheme rem dp) := by
  unfold parseNet
  simp only
  split
  · exact (parseHost_onlyVE c hc _).raise ‹_›
  split
  · exact onlyVE_err rfl
  split
  · exact (normalizePath_onlyVE c hc _).raise ‹_›
  split
  · exact (normalizeQuery_onlyVE c hc _).raise ‹_›
  split
  · exact (normalizeFragment_onlyVE c hc _).raise ‹_›
  split
  · exact (normalizeUsername_onlyVE _).raise ‹_›
  split
  · exact (normalizePassword_onlyVE _).raise ‹_›
  · exact onlyVE_ok _

theorem schemeSplit_onlyVE (c : Cfg) (url : Str) : OnlyVE (schemeSplit c url) := by
  unfold schemeSplit
  extract_lets r scheme1 ds s1
  split
  · exact onlyVE_err rfl
  split
  · exact onlyVE_err rfl
  split <;> exact onlyVE_ok _

/-- **C11, parse.**  For every configuration whose parameters raise only `ValueError`s and for every input string,
`URLInfo.parse` returns a result or raises a `ValueError` (subclass).  (Termination: `parse` is a total Lean function.) -/
theorem parse_total (c : Cfg) (hc : ParamsVE c) (s : Str) : OnlyVE (parse c s) := by
  unfold parse
  simp only
  split
  · exact onlyVE_err rfl
  split
  · exact (schemeSplit_onlyVE c _).raise ‹_›
  split
  · split
    · exact (utf8Enc_onlyVE _).raise ‹_›
    · exact onlyVE_ok _
  · exact parseNet_onlyVE c hc _ _ _ _

/-- **C11, parse (UTF-8).**  The same with the model's UTF-8 encoder in place of the codec hypothesis. -/
theorem parse_total_utf8 (c : Cfg) (henc : c.encode = utf8Enc)
    (hidna : ∀ x, OnlyVE (c.idnaNA x)) (hv6 : ∀ x, OnlyVE (c.ipv6 x)) (s : Str) :
    OnlyVE (parse c s) :=
  parse_total c ⟨by intro x; rw [henc]; exact utf8Enc_onlyVE x, hidna, hv6⟩ s

/-- **C11, the logging variant.**  `parse_url_or_log` never raises. -/
theorem parse_or_log_never_raises (c : Cfg) (hc : ParamsVE c) (s : Str) :
    ∃ r, parseOrLog c s = .ok r := by
  unfold parseOrLog
  split
  · exact ⟨_, rfl⟩
  · rename_i e he
    have := parse_total c hc s e he
    simp [this]

/-- **C11, `--escaped-fragment` rewriting.**  `URLRewriter.rewrite` (hash-fragment part) applied to any URL whose normal
form is readable never raises, whatever the URL holds (`{id}`, lone braces, `%s`): the URL is concatenated, not used
as a format string. -/
theorem rewrite_never_raises (c : Cfg) (hc : ParamsVE c) (i : URLInfo) (hu : ∃ u, i.url = .ok u) :
    ∃ j, rewriteEscaped c i = .ok j := by
  obtain ⟨u, hu⟩ := hu
  unfold rewriteEscaped
  split
  · split
    · rw [hu]
      simp only
      rename_i rest _
      obtain ⟨r, hr⟩ := parse_or_log_never_raises c hc
        (u ++ [if (i.query.getD []).isEmpty then 63 else 38] ++ sEscFrag ++ rest)
      rw [hr]
      cases r with
      | none => exact ⟨_, rfl⟩
      | some j => exact ⟨_, rfl⟩
    · exact ⟨_, rfl⟩
  · exact ⟨_, rfl⟩

theorem hexChar_isHex : ∀ n, n < 16 → isHexDigit (hexChar n) = true := by decide

/-- **C11, the percent-encode table is total.**  For every byte value 0..255 and every encode set the encoder yields
either the byte itself (a printable ASCII byte) or `%XY` with two hex digits: `PercentEncoderMap.__missing__` covers
all 256. -/
theorem percent_table_total (set : List Nat) (b : Nat) (hb : b < 256) :
    (pctByte set b = [b] ∧ 0x20 ≤ b ∧ b ≤ 0x7E) ∨
    (∃ x y, pctByte set b = [37, x, y] ∧ isHexDigit x = true ∧ isHexDigit y = true) := by
  unfold pctByte
  split
  · right
    exact ⟨_, _, rfl, hexChar_isHex _ (by omega), hexChar_isHex _ (by omega)⟩
  · rename_i h
    simp only [Bool.or_eq_true, decide_eq_true_eq, not_or] at h
    left
    exact ⟨rfl, by omega, by omega⟩

-- byte 0xFF (U+00FF under latin-1, U+044F under cp1251 …) is written %FF
example : pctByte defaultSet 255 = [37, 70, 70] := by decide +kernel

/-- **C11, the consumer of the logging variant.**  The link loop of `ProcessingRule._process_scrape_info` never raises
on any list of scraped links, and gives at most one result per link (unparseable links are skipped). -/
theorem scrape_parse_never_raises (c : Cfg) (hc : ParamsVE c) :
    ∀ links : List Str, ∃ r, scrapeParse c links = .ok r ∧ r.length ≤ links.length
  | [] => ⟨[], rfl, Nat.le_refl _⟩
  | l :: ls => by
    obtain ⟨r, hr, hlen⟩ := scrape_parse_never_raises c hc ls
    obtain ⟨o, ho⟩ := parse_or_log_never_raises c hc l
    unfold scrapeParse
    rw [ho]
    cases o with
    | none => exact ⟨r, by simpa using hr, by simp; omega⟩
    | some i => exact ⟨i :: r, by simp [hr], by simp; omega⟩

/-- **C11, joining.**  Relative to the stdlib join raising only `ValueError`: `wpull.url.urljoin` raises only
`ValueError` (for both values of `allow_fragments`). -/
theorem urljoin_only_valueerror (stdJoin : Bool → Str → Str → Except PyExc Str)
    (hj : ∀ af b u, OnlyVE (stdJoin af b u)) (af : Bool) (base url : Str) :
    OnlyVE (urljoin stdJoin af base url) := by
  unfold urljoin
  split
  · exact onlyVE_ok _
  split
  · simp only
    split <;> exact hj _ _ _
  · exact hj _ _ _

/-- **C11, joining (the safe variant).**  Relative to the same hypothesis, `urljoin_safe` never raises: it
returns the joined URL or `None`. -/
theorem urljoin_safe_only_valueerror (stdJoin : Bool → Str → Str → Except PyExc Str)
    (hj : ∀ af b u, OnlyVE (stdJoin af b u)) (af : Bool) (base url : Str) :
    ∃ r, urljoinSafe stdJoin af base url = .ok r := by
  unfold urljoinSafe
  split
  · exact ⟨_, rfl⟩
  · rename_i e he
    have := urljoin_only_valueerror stdJoin hj af base url e he
    simp [this]

/-- **C11, joining (fragment only).**  A fragment-only reference joined without fragment parsing stays in the
base document. -/
theorem urljoin_fragment_only (stdJoin : Bool → Str → Str → Except PyExc Str) (base frag : Str) :
    urljoin stdJoin false base (35 :: frag) = .ok ((partition1 35 base).1 ++ 35 :: frag) := by
  unfold urljoin
  simp [startsWith]

theorem pyOr_some (x : Option Str) (d : Str) : (pyOr x (some d)).isSome = true := by
  unfold pyOr
  cases x with
  | none => rfl
  | some r => by_cases h : r.isEmpty = true <;> simp [h]

/-- **C11, HTML scraper glue (base selection).**  The base that `HTMLScraper._process_elements` hands to `urljoin_safe`
for an element's links is never `None`: the document base or, when it is missing or its join failed, the page URL;
for `<object>/<applet codebase=…>` the joined code base or, when that join failed, the page URL. -/
theorem elementBase_some (stdJoin : Bool → Str → Str → Except PyExc Str) (page : Str) (doc : Option Str)
    (codebase : Option Str) (b : Option Str) (h : elementBase stdJoin page doc codebase = .ok b) :
    b.isSome = true := by
  unfold elementBase at h
  split at h
  · cases h; exact pyOr_some _ _
  · split at h
    · cases h; exact pyOr_some _ _
    · split at h
      · cases h
      · cases h; exact pyOr_some _ _

/-- **C11, joining a scraped link against its page.**  Relative to the stdlib join raising only `ValueError`: base
selection plus join of one scraped link never raises, for every page URL, document base, `codebase` and link text. -/
theorem scrapeLink_never_raises (stdJoin : Bool → Str → Str → Except PyExc Str)
    (hj : ∀ af b u, OnlyVE (stdJoin af b u)) (page : Str) (doc codebase : Option Str) (link : Str) :
    ∃ r, scrapeLink stdJoin page doc codebase link = .ok r := by
  unfold scrapeLink
  have hb : ∃ b, elementBase stdJoin page doc codebase = .ok b := by
    unfold elementBase
    split
    · exact ⟨_, rfl⟩
    · split
      · exact ⟨_, rfl⟩
      · rename_i cb _
        obtain ⟨r, hr⟩ := urljoin_safe_only_valueerror stdJoin hj true page cb
        rw [hr]; exact ⟨_, rfl⟩
  obtain ⟨b, hb⟩ := hb
  rw [hb]
  have hsome := elementBase_some stdJoin page doc codebase b hb
  cases b with
  | none => cases hsome
  | some base =>
    simp only [joinOnBase]
    exact urljoin_safe_only_valueerror stdJoin hj false base link

/-- **C11, HTML scraper glue (document base).**  Relative to the stdlib join raising only `ValueError`: computing
the document base from any list of `<base href>` values never raises. -/
theorem docBase_never_raises (stdJoin : Bool → Str → Str → Except PyExc Str)
    (hj : ∀ af b u, OnlyVE (stdJoin af b u)) (page : Str) :
    ∀ (hrefs : List Str) (cur : Option Str), ∃ r, docBase stdJoin page hrefs cur = .ok r
  | [], cur => ⟨cur, rfl⟩
  | href :: rest, cur => by
    unfold docBase
    split
    · exact docBase_never_raises stdJoin hj page rest cur
    · obtain ⟨r, hr⟩ := urljoin_safe_only_valueerror stdJoin hj true page href
      rw [hr]
      exact docBase_never_raises stdJoin hj page rest r

theorem parseHostname_no_bracket {c : Cfg}
    (hv6 : ∀ x y, c.ipv6 x = .ok y → y.contains 91 = false ∧ y.contains 93 = false)
    {h hn : Str} (hh : parseHostname c h = .ok hn) : hn.contains 91 = false ∧ hn.contains 93 = false := by
  cases hb : startsWith h [91] with
  | true => exact hv6 _ _ ((parseHostname_v6 hb).1 hh).2.2
  | false =>
    have hf := parseHostname_forbidden hb hh
    exact ⟨by simpa using forbidden_not_mem hf 91, by simpa using forbidden_not_mem hf 93⟩

/-- **C11, accessors.**  On every result of `parse`, `url`, `query_map`, `hostname_with_port` and `split_path` return
(the remaining ones, `is_ipv6()`, `is_port_default()` and `to_dict()`, are plain values of the model / the attributes
plus `url`).  The only hypothesis is that the IPv6 parameter returns no bracket (what `hostname_with_port` asserts). -/
theorem accessors_total (c : Cfg)
    (hv6 : ∀ x y, c.ipv6 x = .ok y → y.contains 91 = false ∧ y.contains 93 = false)
    (s : Str) (i : URLInfo) (h : parse c s = .ok i) :
    (∃ u, i.url = .ok u) ∧ (∃ m, i.queryMap = .ok m) ∧
    (∃ x, i.hostnameWithPort = .ok x) ∧ (∃ p, i.splitPath = .ok p) := by
  rcases parse_cases h with ⟨sc, rem, hb, rfl⟩ | hP
  · -- not a network scheme: raw / scheme / path only
    refine ⟨⟨strip s, ?_⟩, ⟨_, rfl⟩, ⟨[], ?_⟩, ⟨_, rfl⟩⟩
    · unfold URLInfo.url; simp only [hb]
    · unfold URLInfo.hostnameWithPort; simp only [hb]
  · obtain ⟨P⟩ := hP
    exact ⟨⟨_, P.url_eq⟩, ⟨_, rfl⟩, ⟨_, P.hostnameWithPort_eq (parseHostname_no_bracket hv6 P.hostname_ok)⟩,
      ⟨_, by unfold URLInfo.splitPath; rw [P.path_eq]⟩⟩

/-- a configuration: UTF-8, no non-ASCII host support, no IPv6 -/
def cfg0 : Cfg :=
  { defaultScheme := some sHttp, encode := utf8Enc, lowerNA := id,
    idnaNA := fun _ => .error .UnicodeError, ipv6 := fun _ => .error .AddressValueError, unquote := id }

theorem cfg0_paramsVE : ParamsVE cfg0 :=
  ⟨utf8Enc_onlyVE, fun _ => onlyVE_err rfl, fun _ => onlyVE_err rfl⟩

-- `HTTP://h:80/a/../b?q` parses and normalises to `http://h/b?q`
example : (parse cfg0 [72, 84, 84, 80, 58, 47, 47, 104, 58, 56, 48, 47, 97, 47, 46, 46, 47, 98, 63, 113]).bind URLInfo.url
    = .ok [104, 116, 116, 112, 58, 47, 47, 104, 47, 98, 63, 113] := by decide +kernel
-- `http://h:x/` is rejected with ValueError (the port)
example : parse cfg0 [104, 116, 116, 112, 58, 47, 47, 104, 58, 120, 47] = .error .ValueError := by decide +kernel
-- `http://[::1]/` reaches the IPv6 parameter; its AddressValueError is a ValueError
example : parse cfg0 [104, 116, 116, 112, 58, 47, 47, 91, 58, 58, 49, 93, 47] = .error .AddressValueError := by decide +kernel
-- a lone surrogate in the user info is rejected by `parse` itself, not lazily by `.url`
example : parse cfg0 [104, 116, 116, 112, 58, 47, 47, 0xdc80, 64, 104, 47] = .error .UnicodeEncodeError := by decide +kernel
-- `mailto:x` (no network scheme): every accessor returns
example : ((parse cfg0 [109, 97, 105, 108, 116, 111, 58, 120]).bind URLInfo.queryMap) = .ok [([], [[]])] := by decide +kernel
example : parseOrLog cfg0 [58] = .ok none := by decide +kernel
-- `http://h/{id}#!x` is rewritten to `http://h/{id}?_escaped_fragment_=x`
example : ((parse cfg0 [104, 116, 116, 112, 58, 47, 47, 104, 47, 123, 105, 100, 125, 35, 33, 120]).bind (rewriteEscaped cfg0)).bind URLInfo.url
    = .ok ([104, 116, 116, 112, 58, 47, 47, 104, 47, 123, 105, 100, 125, 63] ++ sEscFrag ++ [120]) := by decide +kernel
-- a junk link between two good ones is skipped: `["h.x", ":", "mailto:x"]` keeps two results
example : (scrapeParse cfg0 [[104, 46, 120], [58], [109, 97, 105, 108, 116, 111, 58, 120]]).map List.length = .ok 2 := by decide +kernel
example : urljoinSafe (fun _ _ _ => .error .ValueError) true [104] [47, 47, 120] = .ok none := by decide +kernel
-- a `None` base and the scheme-relative link `//h/` would raise AttributeError …
example : joinOnBase (fun _ _ _ => .error .ValueError) none [47, 47, 104, 47] = .error .AttributeError := by decide +kernel
-- … which base selection rules out: an unjoinable codebase falls back to the page URL `h:`
example : elementBase (fun _ _ _ => .error .ValueError) [104, 58] none (some [91]) = .ok (some [104, 58]) := by decide +kernel

end Wpull.Url
