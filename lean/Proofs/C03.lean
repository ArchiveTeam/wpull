/-
C03 — A killed crawl resumes from its database without loss or refetch.

Property theorems over `Wpull.Crawl` with the `crash` event (the process dies
between any two database transactions: the volatile state — items in flight,
their scraped link batches — is gone, the table stays) and the `restart` event
(`release()` + insert-or-ignore of the start URLs).  `Reach … true` = all runs
with any number of crashes and restarts at any position.
-/
import Proofs.C01
namespace Wpull.Crawl

variable {c : Cfg} {conc : Nat} {starts : List Url} {s s' : St}

inductive Steps (c : Cfg) (conc : Nat) (starts : List Url) : St → St → Prop
  | refl {s : St} : Steps c conc starts s s
  | step {s s' s'' : St} {e : Ev} : Steps c conc starts s s' → step c conc starts s' e = some s'' →
      Steps c conc starts s s''

theorem Steps.reach (h0 : Reach c conc starts true s) (h : Steps c conc starts s s') :
    Reach c conc starts true s' := by
  induction h with
  | refl => exact h0
  | step _ hs ih => exact .step ih (fun hf => Bool.noConfusion hf) hs

/-- **C03 (nothing stuck)** Right after a restart no URL is left in progress. -/
theorem nothing_stuck (h : step c conc starts s .restart = some s') :
    ∀ r ∈ s'.table, r.status ≠ .inProgress := by
  cases step_tr h
  exact startup_no_inProgress (release_no_inProgress _) starts

/-- **C03 (nothing lost — every crash point)** In every reachable state — in
particular in the state a kill leaves behind, wherever it strikes — for every
URL recorded with a final or error status, all links its visit offered are in
the table and all its requests were made.  (The repaired order: children are
stored *before* the status is written.) -/
theorem nothing_lost (hw : c.WF) (h : Reach c conc starts true s) :
    ∀ o ∈ s.outs, ∀ r ∈ s.table, r.url = o.url →
      (r.status = .done ∨ r.status = .skipped ∨ r.status = .error) →
      (∀ k ∈ (c.visit o).children, k.url ∈ urls s.table) ∧ (∀ v ∈ (c.visit o).requests, v ∈ s.log) :=
  have ⟨ha, hb, _⟩ := reach_inv hw h
  fun _ ho _ hr hu hs => hb.closed ha ho hr hu hs

theorem done_stable_step (ha : InvA s) {e : Ev} (hs : Tr c starts s e s')
    (r : Row) (hr : r ∈ s.table) (hd : r.status = .done) :
    r ∈ s'.table ∧ (∀ o ∈ s'.outs, o.url = r.url → o ∈ s.outs) := by
  have other {x : Row} (hx : x ∈ s.table) (hxs : x.status ≠ .done) : r.url ≠ x.url :=
    fun e => hxs (row_unique ha.nodup hr hx e ▸ hd)
  cases hs with
  | checkOut x _ hx hxs =>
    have hne := other hx (by rcases hxs with h | h <;> rw [h] <;> exact Status.noConfusion)
    refine ⟨setStatus_mem_other _ _ hr hne, fun o ho hu => ?_⟩
    rcases List.mem_append.mp ho with ho | ho
    · exact ho
    · cases List.mem_singleton.mp ho; exact absurd hu.symm hne
  | request | crash => exact ⟨hr, fun o ho _ => ho⟩
  | flush => exact ⟨addMany_mem_old _ hr, fun o ho _ => ho⟩
  | checkIn x _ hm =>
    have hrow : x ∈ s.table ∧ x.status = .inProgress := ha.itemRow _ hm
    have hne := other hrow.1 (by rw [hrow.2]; exact Status.noConfusion)
    exact ⟨setStatus_mem_other _ _ hr hne, fun o ho _ => ho⟩
  | restart =>
    have := release_mem hr
    rw [if_neg (by rw [hd]; exact Status.noConfusion)] at this
    exact ⟨addMany_mem_old _ this, fun o ho _ => ho⟩

/-- **C03 (no refetch of done)** A URL recorded as done — e.g. before a kill —
stays done through every later event (crash, restart, any schedule) and is
never handed to a worker again. -/
theorem no_refetch_of_done (hw : c.WF) (h0 : Reach c conc starts true s) (h : Steps c conc starts s s')
    (r : Row) (hr : r ∈ s.table) (hd : r.status = .done) :
    r ∈ s'.table ∧ (∀ o ∈ s'.outs, o.url = r.url → o ∈ s.outs) := by
  induction h with
  | refl => exact ⟨hr, fun o ho _ => ho⟩
  | @step s' s'' e hst hs ih =>
    have := done_stable_step (reach_inv hw (hst.reach h0)).1 (step_tr hs) r ih.1 hd
    exact ⟨this.1, fun o ho hu => ih.2 o (this.2 o ho hu) hu⟩

/-- **C03 (the runs together are complete)** For a level-free scope: however
often the crawl is killed and rerun, once a run comes to its end the table
holds exactly the discoverable URLs, all final, and every accepted discoverable
URL — everything an uninterrupted crawl requests (`complete_exactly_once`) —
has been requested by one of the runs. -/
theorem union_complete {acc : Url → Bool} {links : Url → List Child} (hs : Simple c acc links)
    (h : Reach c conc starts true s) (hq : quiescent s = true) :
    (∀ u, u ∈ urls s.table ↔ Disc starts acc links u) ∧
    (∀ r ∈ s.table, r.status = .done ∨ r.status = .skipped) ∧
    (∀ u, Disc starts acc links u → acc u = true → u ∈ s.log) := by
  have hiff := table_iff_disc hs h hq
  have hc := records_closed hs.scoped h hq
  refine ⟨hiff, hc.final, fun u hd hacc => ?_⟩
  obtain ⟨x, hx, rfl⟩ := mem_urls.mp ((hiff u).mpr hd)
  exact hc.logged x hx hacc

/-- **C03 (the runs together, record-dependent scopes)** For a scope that depends on depth /
requisite-ness (`Scoped`): however often the crawl is killed and rerun, once a run comes to its end the table
is as `closure_of_stored_records` says, and every URL whose stored record is in scope has been requested by
one of the runs. -/
theorem records_closed_after_any_kills {acc : Row → Bool} {links : Row → List Child} (hs : Scoped c acc links)
    (h : Reach c conc starts true s) (hq : quiescent s = true) :
    (∀ r ∈ s.table, r.status = .done ∨ r.status = .skipped) ∧
    (∀ u ∈ starts, u ∈ urls s.table) ∧
    (∀ x ∈ s.table, acc x = true → ∀ k ∈ links x, k.url ∈ urls s.table) ∧
    (∀ x ∈ s.table, (x.url ∈ starts ∧ x.level = 0 ∧ x.inline = none) ∨
        ∃ p ∈ s.table, acc p = true ∧ ∃ k ∈ links p, keyEq x (childRow p k)) ∧
    (∀ x ∈ s.table, acc x = true → x.url ∈ s.log) :=
  have hc := records_closed hs h hq
  ⟨hc.final, hc.startsIn, hc.linksIn, hc.prov, hc.logged⟩

/-- a kill during start-up (before the start URLs are committed) leaves the empty database;
starting again from it is exactly `init` -/
theorem boot_restart (c : Cfg) (conc : Nat) (starts : List Url) :
    step c conc starts { table := [], inflight := [], log := [], outs := [], down := true } .restart
      = some (init starts) :=
  rfl

/-! ## Non-vacuity: a kill between the children insert and the status write, then a rerun -/

example : (run demoCfg 4 [0] (init [0])
    [.checkOut, .request 0, .flush 0, .crash, .restart, .checkOut, .request 0, .flush 0, .checkIn 0,
     .checkOut, .request 1, .flush 1, .checkIn 1, .checkOut, .request 2, .flush 2, .checkIn 2,
     .checkOut, .request 3, .flush 3, .checkIn 3, .checkOut, .flush 4, .checkIn 4]).map
      (fun s => (quiescent s, s.log)) = some (true, [0, 0, 1, 2, 3]) := by
  decide +kernel

end Wpull.Crawl
