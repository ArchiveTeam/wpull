/-
C17 — Each FTP command is one line, and replies are read whole.
UTF-8 leaves ASCII alone, so the CR/LF test on a command's text holds for its bytes; `readline` over segments is
`readline` over their concatenation; one induction over `read_reply`'s loop says what a returned reply means.
Then transfers, fetches on one client, and the PASV address (for C09).
-/
import Wpull.Ftp
import Proofs.Lemmas.Py
import Proofs.Lemmas.Lit
import Proofs.Lemmas.Lines
namespace Wpull.Ftp

theorem utf8SE1_ascii {c : Nat} {a : Bytes} (h : utf8SE1 c = .ok a) : a = [c] ∨ ∀ b ∈ a, 128 ≤ b := by
  -- every byte of a longer encoding is `0x80 + …` or more; an escaped surrogate is `c - 0xDC00` with `0xDC80 ≤ c`
  grind [utf8SE1]

theorem utf8SE_eq (s : Str) : utf8SE s = encodeBy utf8SE1 s := by
  induction s with
  | nil => rfl
  | cons c t ih => rw [utf8SE, ih]; rfl

theorem encodeBy_utf8SE1_ascii {s : Str} {a : Bytes} (h : encodeBy utf8SE1 s = .ok a) {b : Nat} (hb : b ∈ a)
    (hlt : b < 128) : b ∈ s := by
  obtain ⟨c, hc, x, hx, hbx⟩ := encodeBy_mem h hb
  rcases utf8SE1_ascii hx with rfl | hge
  · exact List.mem_singleton.1 hbx ▸ hc
  · exact absurd (hge b hbx) (by omega)

/-- **C17 (a)** Whatever command name and argument (hence whatever URL path, user name or password, after
whatever percent-decoding): if `Command.to_bytes` returns bytes at all, they are exactly one line — no CR
or LF before the final CRLF.  A URL therefore cannot inject a second command. -/
theorem command_single_line (name arg : Str) (b : Bytes)
    (h : commandToBytes name arg = .ok b) :
    ∃ l, b = l ++ [13, 10] ∧ 13 ∉ l ∧ 10 ∉ l := by
  unfold commandToBytes at h
  simp only at h
  split at h
  · cases h
  · rename_i hc
    simp only [Bool.or_eq_true, List.contains_iff_mem, not_or] at hc
    obtain ⟨x, y, hx, hy, rfl⟩ := encodeBy_append _ _ _ _ (utf8SE_eq _ ▸ h)
    cases hy
    exact ⟨x, rfl, fun h => hc.1 (encodeBy_utf8SE1_ascii hx h (by omega)),
      fun h => hc.2 (encodeBy_utf8SE1_ascii hx h (by omega))⟩

/-- **C17 (a), the refusal.**  `Command.to_bytes` refuses exactly when the command text holds a CR or LF — or
when the encoder fails with ProtocolError, which it never does (`utf8SE1` fails with UnicodeEncodeError
only); that second disjunct is not shown here to be impossible. -/
theorem command_refused_iff (name arg : Str) :
    commandToBytes name arg = .error .ProtocolError ↔
      (13 ∈ name ++ [32] ++ arg ∨ 10 ∈ name ++ [32] ++ arg) ∨
      utf8SE (name ++ [32] ++ arg ++ [13, 10]) = .error .ProtocolError := by
  unfold commandToBytes
  simp only [Bool.or_eq_true, List.contains_iff_mem]
  split
  · exact iff_of_true rfl (.inl ‹_›)
  · exact (or_iff_right ‹_›).symm

example : commandToBytes (lit "RETR") (lit "/a b") = .ok (lit "RETR /a b\r\n") := by
  repeat rw [lit_ofList]
  decide +kernel
example : commandToBytes (lit "RETR") (lit "/a\r\nDELE x") = .error .ProtocolError := by
  repeat rw [lit_ofList]
  decide +kernel

theorem readlineSegs_eq (acc : Bytes) (segs : List Bytes) :
    (readlineSegs acc segs).1 = acc ++ (splitLF segs.flatten).1 ∧
    (readlineSegs acc segs).2.flatten = (splitLF segs.flatten).2 := by
  fun_induction readlineSegs acc segs with
  | case1 => simp [splitLF, findLF]
  | case2 acc s rest i hs => simp [splitLF_append, hs]
  | case3 acc s rest hs ih => simpa [splitLF_append, hs] using ih

theorem splitLF_of_readlineSegs {segs rest : List Bytes} {line : Bytes} (h : readlineSegs [] segs = (line, rest)) :
    splitLF segs.flatten = (line, rest.flatten) := by
  have := readlineSegs_eq [] segs
  rw [h] at this
  exact Prod.ext this.1.symm this.2.symm

def ReplyResult.flat : ReplyResult (List Bytes) → ReplyResult Bytes
  | .ok r rest seen => .ok r rest.flatten seen
  | .err e => .err e
  | .fuel => .fuel

theorem readReplyLoop_flat (fuel : Nat) (r : Reply) (seen : List Bytes) (segs : List Bytes) :
    (readReplyLoop (readlineSegs []) fuel r seen segs).flat
      = readReplyLoop splitLF fuel r seen segs.flatten := by
  fun_induction readReplyLoop (readlineSegs []) fuel r seen segs
  case case1 => rfl
  -- the recursive call: `flat` stays folded, so that the induction hypothesis (among `*`) rewrites it
  case case6 => simp [readReplyLoop, splitLF_of_readlineSegs ‹_›, *]
  all_goals simp [readReplyLoop, splitLF_of_readlineSegs ‹_›, ReplyResult.flat, *]

/-- **C17 (b)** Reading a reply over any list of segments of the control stream gives the same reply, the
same notified lines and leaves the same unread bytes as reading over the concatenated stream. -/
theorem reply_segmentation_independent (fuel : Nat) (segs : List Bytes) :
    (readReplySegs fuel segs).flat = readReplyFlat fuel segs.flatten :=
  readReplyLoop_flat fuel _ _ segs

theorem reply_same_for_all_segmentations (fuel : Nat) (s₁ s₂ : List Bytes)
    (h : s₁.flatten = s₂.flatten) :
    (readReplySegs fuel s₁).flat = (readReplySegs fuel s₂).flat := by
  rw [reply_segmentation_independent, reply_segmentation_independent, h]

example : (readReplySegs 10 [lit "220-hi\r\n22", lit "0 ok\r\nrest"]).flat
    = .ok ⟨some 220, some (lit "hi\r\nok")⟩ (lit "rest") [lit "220-hi\r\n", lit "220 ok\r\n"] := by
  repeat rw [lit_ofList]
  decide +kernel

/-- `l` is the last line taken, `r1` the reply before it; `r0.code = none → r1.code = none` lets (b″) conclude
that it was `l` that set the code. -/
theorem readReplyLoop_ok {S : Type} {rl : S → Bytes × S} {fuel : Nat} {r0 : Reply} {seen0 : List Bytes} {s : S}
    {r : Reply} {rest : S} {seen : List Bytes} (h : readReplyLoop rl fuel r0 seen0 s = .ok r rest seen) :
    ∃ ls l r1, seen = seen0 ++ ls ++ [l] ∧ (∀ x ∈ ls ++ [l], x.getLast? = some 10) ∧
      (r0.code = none → r1.code = none) ∧ parseData r1 l = .ok r ∧ r.code.isSome := by
  fun_induction readReplyLoop rl fuel r0 seen0 s with
  | case1 | case2 | case3 | case4 => cases h
  | case5 _ r0 _ _ line _ _ _ hlf _ hp hc =>
    cases h
    exact ⟨[], line, r0, by simp, by simpa using hlf, id, hp, hc⟩
  | case6 _ _ _ _ line _ _ _ hlf _ _ hc ih =>
    obtain ⟨ls, l, r1, rfl, hLF, hn, hp⟩ := ih h
    exact ⟨line :: ls, l, r1, by simp, List.forall_mem_cons.2 ⟨Decidable.not_not.1 hlf, hLF⟩,
      fun _ => hn (by simpa using hc), hp⟩

/-- **C17 (b′)** A reply is complete only at a line that carries a code: the reader never returns a reply
without a code, and every line it consumed ended with LF (a stream that ends inside a line is a
`NetworkError`). -/
theorem reply_complete_has_code {S : Type} (rl : S → Bytes × S) (fuel : Nat) (r0 : Reply)
    (seen0 : List Bytes) (s : S) (r : Reply) (rest : S) (seen : List Bytes)
    (h : readReplyLoop rl fuel r0 seen0 s = .ok r rest seen)
    (h0 : ∀ l ∈ seen0, l.getLast? = some 10) :
    r.code.isSome ∧ ∀ l ∈ seen, l.getLast? = some 10 := by
  obtain ⟨ls, l, r1, rfl, hLF, _, _, hc⟩ := readReplyLoop_ok h
  rw [List.append_assoc]
  exact ⟨hc, List.forall_mem_append.2 ⟨h0, hLF⟩⟩

/-- a line piece of the form `ddd<space>text` (RFC 959: the only kind of line that ends a reply) -/
def codeSpace (p : Bytes) : Bool :=
  match digits3? p with
  | some (_, 32 :: _) => true
  | _ => false

theorem parseLine_code {r r' : Reply} {p : Bytes} (h : parseLine r p = .ok r') :
    r'.code = r.code ∨ codeSpace p = true := by
  unfold parseLine at h
  unfold codeSpace
  rcases hd : digits3? p with _ | ⟨n, t⟩
  · simp [hd] at h; subst h; simp
  · simp only [hd] at h
    split at h
    · exact .inr rfl
    · simp at h; subst h; simp
    · simp at h; subst h; simp

theorem foldlM_parseLine_code : ∀ (ps : List Bytes) {r r' : Reply},
    ps.foldlM parseLine r = .ok r' → r'.code = r.code ∨ ∃ p ∈ ps, codeSpace p = true
  | [], r, r', h => by cases h; exact .inl rfl
  | p :: ps, r, r', h => by
    rw [List.foldlM_cons] at h
    cases hp : parseLine r p with
    | error e => rw [hp] at h; cases h
    | ok r1 =>
      rw [hp] at h
      rcases parseLine_code hp with h1 | h1
      · exact (foldlM_parseLine_code ps h).imp (·.trans h1) fun ⟨q, hq, hc⟩ => ⟨q, List.mem_cons_of_mem _ hq, hc⟩
      · exact .inr ⟨p, List.mem_cons_self, h1⟩

/-- **C17 (b″)** A reply ends only at a line holding a piece `ddd<space>…`: free text of a multi-line
reply that merely begins with digits (`2260 of 5000 bytes`) never ends it.  The last line the reader
consumed contains such a piece (a bare CR inside a line counts as a line end, as `bytes.splitlines` does). -/
theorem reply_ends_at_code_line {S : Type} (rl : S → Bytes × S) (fuel : Nat) (r0 : Reply)
    (seen0 : List Bytes) (s : S) (r : Reply) (rest : S) (seen : List Bytes)
    (h : readReplyLoop rl fuel r0 seen0 s = .ok r rest seen) (h0 : r0.code = none) :
    ∃ l, seen.getLast? = some l ∧ ∃ p ∈ splitlinesB l, codeSpace p = true := by
  obtain ⟨ls, l, r1, rfl, _, hn, hp, hc⟩ := readReplyLoop_ok h
  refine ⟨l, by simp, (foldlM_parseLine_code (splitlinesB l) hp).resolve_left fun e => ?_⟩
  rw [e, hn h0] at hc
  cases hc

theorem chunksAux_flatten (n : Nat) (hn : 0 < n) (f : Nat) (b : Bytes) (hf : b.length ≤ f) :
    (chunksAux n f b).flatten = b := by
  fun_induction chunksAux n f b with
  | case1 b => exact (List.length_eq_zero_iff.1 (Nat.le_zero.1 hf)).symm
  | case2 f b h => exact (h.resolve_left (by omega)).symm
  | case3 f b h ih =>
    rw [List.flatten_cons, ih (by simp; omega), List.take_append_drop]

theorem chunks_flatten (n : Nat) (hn : 0 < n) (b : Bytes) : (chunks n b).flatten = b :=
  chunksAux_flatten n hn b.length b (Nat.le_refl _)

theorem flatMap_chunks_flatten (n : Nat) (hn : 0 < n) (segs : List Bytes) :
    (segs.flatMap (chunks n)).flatten = segs.flatten := by
  induction segs with
  | nil => rfl
  | cons s t ih => simp [ih, chunks_flatten n hn s]

/-- **C17 (c)** A transfer is reported complete only after the data connection was closed by the server
*and* the server confirmed with 226 on the control connection; the body is then exactly the bytes of the
data stream, whatever their segmentation. -/
theorem transfer_complete_requires_close_and_226 (dataSegs : List Bytes) (dataEnd : DataEnd)
    (fuel : Nat) (ctrl : List Bytes) (body : Bytes) (reply : Reply)
    (h : readStream dataSegs dataEnd fuel ctrl = .complete body reply) :
    dataEnd = .closed ∧ reply.code = some 226 ∧ body = dataSegs.flatten := by
  unfold readStream at h
  cases dataEnd with
  | stillOpen => cases h
  | reset => cases h
  | closed =>
    simp only at h
    split at h
    · cases h
    · cases h
    · split at h
      · cases h; exact ⟨rfl, ‹_›, flatMap_chunks_flatten 4096 (by omega) dataSegs⟩
      · cases h

/-- A data connection that is reset (not closed) never yields a completed transfer, whatever the
server says on the control connection (by definition of `readStream`; tied by the transfer co-simulation). -/
theorem reset_is_never_complete (dataSegs : List Bytes) (fuel : Nat) (ctrl : List Bytes) :
    readStream dataSegs .reset fuel ctrl = .err .NetworkError := rfl

example : readStream [lit "ab", lit "c"] .closed 10 [lit "226 done\r\n"]
    = .complete (lit "abc") ⟨some 226, some (lit "done")⟩ := by
  repeat rw [lit_ofList]
  decide +kernel

theorem runFetches_own_aux (fs : List Fetch) (h : ∀ f ∈ fs, f.Settled) (pooled : Option (List Nat))
    (hp : pooled.getD [] = []) :
    ∀ p ∈ (runFetches pooled fs).zip fs, p.1.2 = p.2.replies.take p.2.read := by
  induction fs generalizing pooled with
  | nil => intro p hp'; cases hp'
  | cons f fs ih =>
    obtain ⟨hf, hfs⟩ := List.forall_mem_cons.1 h
    simp only [runFetches, hp, List.zip_cons_cons, List.forall_mem_cons]
    refine ⟨rfl, ih hfs _ ?_⟩
    -- what the session leaves in the pool: nothing (raised), or a connection with nothing unread (settled)
    unfold leave
    cases he : f.exit with
    | raised => rfl
    | normal => exact List.drop_eq_nil_of_le (hf he)

/-- **C17 (d)** On one client, whatever sequence of fetches is made and however each of them ends (completed, or
left by any exception at any point of its conversation): every session reads only replies to its own commands —
the first reply it reads answers its first command.  (Sessions left without an exception have read all
their replies — `Settled`; sessions left by an exception lose their control connection.) -/
theorem each_fetch_reads_its_own_replies (fs : List Fetch) (h : ∀ f ∈ fs, f.Settled) :
    ∀ p ∈ (runFetches none fs).zip fs, p.1.2 = p.2.replies.take p.2.read :=
  runFetches_own_aux fs h none rfl

/-- The next fetch opens a fresh control connection exactly when the previous one was left by an exception. -/
theorem fresh_iff_previous_raised (f g : Fetch) (fs : List Fetch) (pooled : Option (List Nat)) :
    ((runFetches pooled (f :: g :: fs))[1]?).map Prod.fst = some (decide (f.exit = .raised)) := by
  simp only [runFetches, leave]
  cases f.exit <;> rfl

/-- why `Settled` is needed: a session that is left without an exception while the server still owes it a reply
(150 read, 226 not yet) hands that reply to the next session as the answer to its first command -/
theorem normal_exit_with_reply_owed_counterexample :
    runFetches none [⟨[150, 226], 1, .normal⟩, ⟨[213, 200], 2, .normal⟩] = [(true, [150]), (false, [226, 213])] := by
  decide +kernel

example : (⟨[150, 226], 2, .normal⟩ : Fetch).Settled ∧ (⟨[150, 226], 1, .raised⟩ : Fetch).Settled := by
  constructor <;> simp [Fetch.Settled]

/-- **C09** (in `obligations/C09.json`; tied by the `pasv` stream).  Whatever six numbers a server writes into its
PASV reply: an address that is accepted has a port that is a port (at most 65535; `connect()` raises
OverflowError, not a network error, for anything larger) and host numbers that are octets. -/
theorem pasv_address_in_range (ns : List Nat) (host : List Nat) (port : Nat)
    (h : parseAddress ns = .ok (host, port)) : port ≤ 65535 ∧ ∀ o ∈ host, o ≤ 255 := by
  unfold parseAddress at h
  split at h
  · rename_i h1 h2 h3 h4 p1 p2
    split at h
    · cases h
    · rename_i hn
      simp only [List.any_cons, Bool.or_eq_true, decide_eq_true_eq, not_or,
        Nat.not_lt] at hn
      cases h
      refine ⟨?_, by simpa using ⟨hn.1, hn.2.1, hn.2.2.1, hn.2.2.2.1⟩⟩
      have : p1 <<< 8 ||| p2 < 2 ^ 16 :=
        Nat.or_lt_two_pow (by rw [Nat.shiftLeft_eq]; omega) (by omega)
      omega
  · cases h

example : parseAddress [10, 0, 0, 1, 7, 228] = .ok ([10, 0, 0, 1], 2020) := by decide +kernel
example : parseAddress [10, 0, 0, 1, 999, 999] = .error .ValueError := by decide +kernel

end Wpull.Ftp
