/-
C15 — downloaded files are always written inside the download directory; model `Wpull.Path`.
`safe_filename` is a chain of stages: quoting and case folding rewrite the name character by character, the
Windows step and the truncation replace its tail, and whatever a stage writes of its own accord is `Plain`:
restricted by no configuration, neither blank nor dot.  `Inv` and `NoTrail` are carried from stage to stage.
`safe_component` needs a non-empty name: that no part `get_filename` takes from the URL is empty
(`rawParts_no_empty_part`) is why `urlsplit`, `hostnameOf` and `unquote` are followed up.
-/
import Wpull.Path
import Proofs.Lemmas.Lit
import Proofs.Lemmas.Py
namespace Wpull.Path

/-- what the property demands of one path component below the prefix; `noControl` is off when
`--restrict-file-names` lists `nocontrol` -/
def SafeComponent (noControl : Bool) (r : Str) : Prop :=
  r ≠ [] ∧ r ≠ dot ∧ r ≠ dotdot ∧ 47 ∉ r ∧ (noControl = true → ∀ c ∈ r, 32 ≤ c)

theorem SafeComponent.ne_nil {nc : Bool} {r : Str} (h : SafeComponent nc r) : r ≠ [] := h.1

theorem SafeComponent.no_slash {nc : Bool} {r : Str} (h : SafeComponent nc r) : 47 ∉ r := h.2.2.2.1

def GoodChar (cfg : SafeCfg) (c : Nat) : Prop :=
  c ≠ 47 ∧ (cfg.noControl = true → 32 ≤ c) ∧ (cfg.os = .windows → c ∉ winChars)

/-- Hypothesis on the logged case table (checked exhaustively against the interpreter on every run). -/
def TableSane (tbl : Nat → Str) : Prop :=
  ∀ c, 128 ≤ c → tbl c ≠ [] ∧ ∀ x ∈ tbl c, 128 ≤ x ∨ isAsciiAlpha x = true

def isLowerHex (c : Nat) : Bool := isAsciiDigit c || (97 ≤ c && c ≤ 102)

/-- a digest: `hexdigest()` starts with 8 lower-case hex digits -/
def HexDigest (d : Str) : Prop := 8 ≤ d.length ∧ ∀ x ∈ d.take 8, isLowerHex x = true

/-- Hypothesis on the hash parameter (checked on every logged digest). -/
def ShaSane (sha : Str → Str) : Prop := ∀ x, HexDigest (sha x)

/-- the characters the stages of `safe_filename` write of their own accord: `%` and hex
digits (escapes, digest), letters and non-ASCII (case folding) -/
def Plain (x : Nat) : Prop :=
  x = 37 ∨ (48 ≤ x ∧ x ≤ 57) ∨ (65 ≤ x ∧ x ≤ 90) ∨ (97 ≤ x ∧ x ≤ 122) ∨ 128 ≤ x

instance : DecidablePred Plain := fun x => by unfold Plain; infer_instance

theorem Plain.ne_blank_dot {x : Nat} (h : Plain x) : x ≠ 32 ∧ x ≠ 46 := by
  unfold Plain at h; omega

theorem Plain.good (cfg : SafeCfg) {x : Nat} (h : Plain x) : GoodChar cfg x :=
  have hw : x ∉ winChars := fun hm => (by decide : ∀ c ∈ winChars, ¬ Plain c) x hm h
  ⟨fun e => hw (e ▸ by decide), fun _ => by unfold Plain at h; omega, fun _ => hw⟩

theorem plain_hexChar {n : Nat} (h : n < 16) : Plain (hexChar n) := by
  unfold Plain hexChar; split <;> omega

theorem pct_plain {b : Nat} (hb : b < 256) : ∀ x ∈ pct b, Plain x := by
  simp only [pct, List.forall_mem_cons]
  exact ⟨.inl rfl, plain_hexChar (by omega), plain_hexChar (by omega), nofun⟩

theorem plain_of_nonAscii_or_alpha {x : Nat} (h : 128 ≤ x ∨ isAsciiAlpha x = true) : Plain x := by
  simp [isAsciiAlpha, isAsciiUpper, isAsciiLower] at h
  unfold Plain; omega

theorem plain_of_lowerHex {x : Nat} (h : isLowerHex x = true) : Plain x := by
  simp [isLowerHex, isAsciiDigit] at h
  unfold Plain; omega

/-- not ".", not ".." and not empty (`notDots_iff`), in the form that a `flatMap` and a new tail keep -/
def NotDots (s : Str) : Prop := (∃ x ∈ s, x ≠ 46) ∨ 3 ≤ s.length

theorem notDots_iff (s : Str) : NotDots s ↔ s ≠ [] ∧ s ≠ dot ∧ s ≠ dotdot := by
  rcases s with _ | ⟨a, _ | ⟨b, _ | ⟨c, t⟩⟩⟩ <;> simp [NotDots, dot, dotdot] <;> omega

def Rewrites (f : Nat → Str) : Prop := ∀ c, f c ≠ [] ∧ ∀ x ∈ f c, x = c ∨ Plain x

theorem length_le_flatMap {f : Nat → Str} (hf : ∀ c, f c ≠ []) (s : Str) :
    s.length ≤ (s.flatMap f).length := by
  induction s with
  | nil => simp
  | cons c t ih =>
    have := List.length_pos_iff.mpr (hf c)
    simp only [List.flatMap_cons, List.length_append, List.length_cons]
    omega

theorem Rewrites.notDots {f : Nat → Str} (hf : Rewrites f) {s : Str} (h : NotDots s) :
    NotDots (s.flatMap f) := by
  rcases h with ⟨c, hc, hne⟩ | h
  · obtain ⟨y, hy⟩ := List.exists_mem_of_ne_nil _ (hf c).1
    refine .inl ⟨y, List.mem_flatMap.mpr ⟨c, hc, hy⟩, ?_⟩
    rcases (hf c).2 y hy with rfl | hp
    · exact hne
    · exact hp.ne_blank_dot.2
  · exact .inr (Nat.le_trans h (length_le_flatMap (fun c => (hf c).1) s))

theorem Rewrites.getLast {f : Nat → Str} (hf : Rewrites f) {s : Str} {l : Nat}
    (h : (s.flatMap f).getLast? = some l) : Plain l ∨ s.getLast? = some l := by
  rcases List.eq_nil_or_concat s with rfl | ⟨L, c, rfl⟩
  · simp at h
  · rw [List.concat_eq_append, List.flatMap_append, List.flatMap_singleton,
      List.getLast?_append_of_ne_nil _ (hf c).1] at h
    rcases (hf c).2 l (List.mem_of_getLast? h) with rfl | hp
    · simp
    · exact .inl hp

-- `iteInduction` in the next two: `split` is slow on `utf8`
theorem utf8_lt (c : Nat) : ∀ b ∈ utf8 c, b < 256 := by
  -- every byte is `k + x % m` with `k + m ≤ 256`, but for the first of two, where `c < 0x800`
  have hm {k x m : Nat} (h : k + m ≤ 256 := by decide) (h0 : 0 < m := by decide) : k + x % m < 256 :=
    Nat.lt_of_lt_of_le (Nat.add_lt_add_left (Nat.mod_lt x h0) k) h
  unfold utf8
  repeat' apply iteInduction (motive := fun l : Bytes => ∀ b ∈ l, b < 256) <;> intro
  all_goals simp only [List.forall_mem_cons, List.not_mem_nil, false_imp_iff, implies_true, and_true]
  · omega
  · exact ⟨by omega, hm⟩
  · exact ⟨hm, hm, hm⟩
  · exact ⟨hm, hm, hm, hm⟩

theorem utf8_ne_nil (c : Nat) : utf8 c ≠ [] := by
  unfold utf8
  repeat' apply iteInduction (motive := (· ≠ [])) <;> intro
  all_goals exact List.cons_ne_nil _ _

theorem encChar_mem {cfg : SafeCfg} {c x : Nat} (h : x ∈ encChar cfg c) :
    (x = c ∧ escapes cfg c = false) ∨ Plain x := by
  unfold encChar at h
  split at h
  · split at h
    · exact .inr (pct_plain (by omega) x h)
    · rename_i he
      exact .inl ⟨by simpa using h, by simpa using he⟩
  · split at h
    · obtain ⟨b, hb, hx⟩ := List.mem_flatMap.mp h
      exact .inr (pct_plain (utf8_lt c b hb) x hx)
    · obtain rfl : x = c := by simpa using h
      exact .inr (by unfold Plain; omega)

theorem encChar_ne_nil (cfg : SafeCfg) (c : Nat) : encChar cfg c ≠ [] := by
  unfold encChar
  split
  · split <;> simp [pct]
  · split
    · cases h : utf8 c with
      | nil => exact absurd h (utf8_ne_nil c)
      | cons b t => simp [pct]
    · simp

theorem encChar_rewrites (cfg : SafeCfg) : Rewrites (encChar cfg) := fun c =>
  ⟨encChar_ne_nil cfg c, fun _ hx => (encChar_mem hx).imp_left (·.1)⟩

theorem goodChar_of_not_escapes {cfg : SafeCfg} (hos : cfg.os ≠ .other) {c : Nat}
    (h : escapes cfg c = false) : GoodChar cfg c := by
  simp only [escapes, Bool.or_eq_false_iff, Bool.and_eq_false_iff] at h
  obtain ⟨⟨⟨h1, h2⟩, h3⟩, _⟩ := h
  refine ⟨?_, ?_, ?_⟩
  · -- "/" is escaped in unix mode and is one of `winChars` in Windows mode
    rintro rfl
    cases hcfg : cfg.os <;> simp [hcfg, winChars] at h1 h3 hos
  · intro hnc
    simp [hnc] at h2
    omega
  · intro hw
    simpa [hw] using h3

theorem asciiLower_self_or_plain (c : Nat) : asciiLower c = c ∨ Plain (asciiLower c) :=
  (asciiLower_cases c).symm.imp (·.2) fun h => by unfold Plain; omega

theorem asciiUpper_self_or_plain (c : Nat) : asciiUpper c = c ∨ Plain (asciiUpper c) :=
  (asciiUpper_cases c).symm.imp (·.2) fun h => by unfold Plain; omega

theorem foldChar_rewrites {tbl : Nat → Str} (ht : TableSane tbl) (m : CaseMode) :
    Rewrites (foldChar tbl m) := by
  intro c
  have htbl (h : ¬ c < 128) : tbl c ≠ [] ∧ ∀ x ∈ tbl c, x = c ∨ Plain x :=
    ⟨(ht c (by omega)).1, fun x hx => .inr (plain_of_nonAscii_or_alpha ((ht c (by omega)).2 x hx))⟩
  cases m <;> simp only [foldChar]
  · simp
  · split
    · simpa using asciiLower_self_or_plain c
    · exact htbl ‹_›
  · split
    · simpa using asciiUpper_self_or_plain c
    · exact htbl ‹_›

/-- re-tailed, as by the Windows step and the truncation: `r` keeps some characters of `s` and ends in plain ones -/
def Retailed (s r : Str) : Prop := ∃ a t, r = a ++ t ∧ (∀ x ∈ a, x ∈ s) ∧ t ≠ [] ∧ ∀ x ∈ t, Plain x

def Inv (cfg : SafeCfg) (s : Str) : Prop := NotDots s ∧ ∀ x ∈ s, GoodChar cfg x

def NoTrail (s : Str) : Prop := ∀ l, s.getLast? = some l → l ≠ 32 ∧ l ≠ 46

theorem Rewrites.inv {cfg : SafeCfg} {f : Nat → Str} (hf : Rewrites f) {s : Str} (hs : Inv cfg s) :
    Inv cfg (s.flatMap f) := by
  refine ⟨hf.notDots hs.1, fun x hx => ?_⟩
  obtain ⟨c, hc, hx⟩ := List.mem_flatMap.mp hx
  rcases (hf c).2 x hx with rfl | hp
  · exact hs.2 x hc
  · exact hp.good cfg

theorem Rewrites.noTrail {f : Nat → Str} (hf : Rewrites f) {s : Str} (hs : NoTrail s) : NoTrail (s.flatMap f) :=
  fun l hl => (hf.getLast hl).elim Plain.ne_blank_dot (hs l)

theorem Retailed.inv {cfg : SafeCfg} {s r : Str} (h : Retailed s r) (hs : ∀ x ∈ s, GoodChar cfg x) :
    Inv cfg r := by
  obtain ⟨a, t, rfl, ha, ht, hp⟩ := h
  obtain ⟨y, hy⟩ := List.exists_mem_of_ne_nil _ ht
  refine ⟨.inl ⟨y, List.mem_append_right _ hy, (hp y hy).ne_blank_dot.2⟩, fun x hx => ?_⟩
  rcases List.mem_append.mp hx with hx | hx
  · exact hs x (ha x hx)
  · exact (hp x hx).good cfg

theorem Retailed.noTrail {s r : Str} (h : Retailed s r) : NoTrail r := by
  obtain ⟨a, t, rfl, _, ht, hp⟩ := h
  intro l hl
  rw [List.getLast?_append_of_ne_nil _ ht] at hl
  exact (hp l (List.mem_of_getLast? hl)).ne_blank_dot

theorem winTrailing_cases (cfg : SafeCfg) (q : Str) :
    (winTrailing cfg q = q ∧ (cfg.os = .windows → NoTrail q)) ∨ Retailed q (winTrailing cfg q) := by
  unfold winTrailing
  split
  · split
    · rename_i h; exact .inl ⟨rfl, fun _ l hl => by simp [h] at hl⟩
    · rename_i c hc
      split
      · rename_i hcc
        exact .inr ⟨_, _, rfl, fun x hx => (List.dropLast_sublist _).subset hx, by simp [pct],
          pct_plain (by simp at hcc; omega)⟩
      · rename_i hcc
        refine .inl ⟨rfl, fun _ l hl => ?_⟩
        obtain rfl : c = l := by simpa [hc] using hl
        simpa using hcc
  · rename_i h; exact .inl ⟨rfl, fun hw => by simp [hw] at h⟩

theorem truncate_cases (cfg : SafeCfg) {sha : Str → Str} (hd : ShaSane sha) (s : Str) :
    truncate cfg sha s = s ∨ Retailed s (truncate cfg sha s) := by
  unfold truncate
  split
  · obtain ⟨hlen, hhex⟩ := hd s
    exact .inr ⟨_, _, rfl, fun x hx => List.mem_of_mem_take hx,
      List.ne_nil_of_length_pos (by rw [List.length_take]; omega), fun x hx => plain_of_lowerHex (hhex x hx)⟩
  · exact .inl rfl

theorem safeFilename_ok {cfg : SafeCfg} {tbl : Nat → Str} {sha : Str → Str} {name r : Str}
    (h : safeFilename cfg tbl sha name = .ok r) :
    ∃ q, quoteName cfg name = .ok q ∧ r = foldStr tbl cfg.case (truncate cfg sha (winTrailing cfg q)) := by
  unfold safeFilename at h
  split at h
  · cases h
  · cases h; exact ⟨_, ‹_›, rfl⟩

theorem quoteName_inv {cfg : SafeCfg} (hos : cfg.os ≠ .other) {name q : Str} (hn : name ≠ [])
    (h : quoteName cfg name = .ok q) : Inv cfg q := by
  -- "%2E" and "%2E%2E": nothing is kept, all is plain
  have hlit : ∀ t : Str, t ≠ [] → (∀ x ∈ t, Plain x) → Inv cfg t := fun t h0 hp =>
    Retailed.inv (s := []) ⟨[], t, rfl, fun _ h => h, h0, hp⟩ (fun _ h => nomatch h)
  rw [quoteName] at h
  by_cases h1 : name = dot
  · rw [if_pos h1, lit_ofList] at h
    cases h; exact hlit _ (List.cons_ne_nil _ _) (by decide +kernel)
  by_cases h2 : name = dotdot
  · rw [if_neg h1, if_pos h2, lit_ofList] at h
    cases h; exact hlit _ (List.cons_ne_nil _ _) (by decide +kernel)
  rw [if_neg h1, if_neg h2] at h
  split at h
  · cases h
  · cases h
    refine ⟨(encChar_rewrites cfg).notDots ((notDots_iff name).mpr ⟨hn, h1, h2⟩), fun x hx => ?_⟩
    obtain ⟨c, _, hx⟩ := List.mem_flatMap.mp hx
    rcases encChar_mem hx with ⟨rfl, he⟩ | hp
    · exact goodChar_of_not_escapes hos he
    · exact hp.good cfg

/-- For `os_type` unix or windows and a non-empty name, whatever `safe_filename` returns is a single safe path
component: non-empty, not "." or "..", no "/", no C0 control unless `nocontrol`; in Windows mode none of
`\|/:?"*<>` either.  (DESIGN.md C15, T.) -/
theorem safe_component (cfg : SafeCfg) (tbl : Nat → Str) (sha : Str → Str) (name r : Str)
    (hos : cfg.os ≠ .other) (ht : TableSane tbl) (hd : ShaSane sha) (hn : name ≠ [])
    (h : safeFilename cfg tbl sha name = .ok r) :
    SafeComponent cfg.noControl r ∧ (cfg.os = .windows → ∀ c ∈ r, c ∉ winChars) := by
  obtain ⟨q, hq, rfl⟩ := safeFilename_ok h
  -- stage by stage: unchanged, or re-tailed
  replace hq := quoteName_inv hos hn hq
  have hwin : Inv cfg (winTrailing cfg q) := (winTrailing_cases cfg q).elim (fun h => h.1.symm ▸ hq) (·.inv hq.2)
  have htr : Inv cfg (truncate cfg sha (winTrailing cfg q)) :=
    (truncate_cases cfg hd _).elim (· ▸ hwin) (·.inv hwin.2)
  obtain ⟨hdots, hg⟩ := (foldChar_rewrites ht cfg.case).inv htr
  obtain ⟨h0, h1, h2⟩ := (notDots_iff _).mp hdots
  exact ⟨⟨h0, h1, h2, fun h47 => (hg 47 h47).1 rfl, fun hnc c hc => (hg c hc).2.1 hnc⟩,
    fun hw c hc => (hg c hc).2.2 hw⟩

theorem encChar_self (cfg : SafeCfg) {c : Nat} (h : c = 32 ∨ c = 46) : encChar cfg c = [c] := by
  rcases h with rfl | rfl <;> simp [encChar, escapes, winChars]

theorem quote_last (cfg : SafeCfg) (name : Str) :
    (name.flatMap (encChar cfg) = [] ↔ name = []) ∧
    ((name.flatMap (encChar cfg)).getLast? = some 32 ↔ name.getLast? = some 32) ∧
    ((name.flatMap (encChar cfg)).getLast? = some 46 ↔ name.getLast? = some 46) := by
  have hlast : ∀ l, l = 32 ∨ l = 46 →
      ((name.flatMap (encChar cfg)).getLast? = some l ↔ name.getLast? = some l) := by
    refine fun l hl => ⟨fun h => ((encChar_rewrites cfg).getLast h).resolve_left fun hp => ?_, fun h => ?_⟩
    · have := hp.ne_blank_dot; omega
    · obtain ⟨L, rfl⟩ := List.getLast?_eq_some_iff.mp h
      simp [encChar_self cfg hl]
  refine ⟨⟨fun h => ?_, fun h => by simp [h]⟩, hlast 32 (.inl rfl), hlast 46 (.inr rfl)⟩
  have := length_le_flatMap (encChar_ne_nil cfg) name
  rw [h] at this
  exact List.eq_nil_of_length_eq_zero (Nat.le_zero.mp this)

/-- In every configuration `safe_filename` raises exactly for a lone surrogate in a name other than "." / ".."
(`UnicodeEncodeError` from `filename.encode('utf8')`); in particular Windows mode does not raise for a name ending
in a blank or a dot, nor for the empty name.
(DESIGN.md C15 T, section 7 row 17; KNOWN_FINDINGS.txt `fixed:` C15 b7d56c7.) -/
theorem error_branch (cfg : SafeCfg) (tbl : Nat → Str) (digest : Str → Str) (name : Str) (e : PyExc) :
    safeFilename cfg tbl digest name = .error e ↔
      name ≠ dot ∧ name ≠ dotdot ∧ name.any isSurrogate = true ∧ e = .UnicodeEncodeError := by
  unfold safeFilename quoteName
  by_cases hd : name = dot
  · simp [hd]
  by_cases hdd : name = dotdot
  · simp [hdd, dot, dotdot]
  by_cases hs : name.any isSurrogate = true
  · simpa [hd, hdd, hs] using eq_comm
  · simp [hd, hdd, hs]

/-- `safe_filename` returns a name for every surrogate-free input, in every configuration -/
theorem safe_filename_total (cfg : SafeCfg) (tbl : Nat → Str) (sha : Str → Str) (name : Str)
    (hs : name.any isSurrogate = false) : ∃ r, safeFilename cfg tbl sha name = .ok r := by
  cases h : safeFilename cfg tbl sha name with
  | ok r => exact ⟨r, rfl⟩
  | error e =>
    have := (error_branch cfg tbl sha name e).mp h
    rw [hs] at this
    exact absurd this.2.2.1 (by simp)

/-- In Windows mode a component `safe_filename` returns never ends in a blank or a dot (which Windows would
silently strip): the trailing character is percent-encoded, and neither the truncation (ends in a hex digit)
nor case folding brings one back. -/
theorem windows_no_trailing_dot_or_blank (cfg : SafeCfg) (tbl : Nat → Str) (sha : Str → Str) (name r : Str)
    (hw : cfg.os = .windows) (ht : TableSane tbl) (hd : ShaSane sha)
    (h : safeFilename cfg tbl sha name = .ok r) :
    r.getLast? ≠ some 32 ∧ r.getLast? ≠ some 46 := by
  obtain ⟨q, _, rfl⟩ := safeFilename_ok h
  -- as in `safe_component`, but the Windows step, where it changes nothing, has found no blank or dot
  have hwin : NoTrail (winTrailing cfg q) := (winTrailing_cases cfg q).elim (fun h => h.1.symm ▸ h.2 hw) (·.noTrail)
  have htr : NoTrail (truncate cfg sha (winTrailing cfg q)) :=
    (truncate_cases cfg hd _).elim (· ▸ hwin) (·.noTrail)
  have hfold := (foldChar_rewrites ht cfg.case).noTrail htr
  exact ⟨fun h => (hfold _ h).1 rfl, fun h => (hfold _ h).2 rfl⟩

theorem cut1_eq (s : Str) (sep : Nat) : cut1 s sep = partition1 sep s := by
  induction s with
  | nil => rfl
  | cons x t ih =>
    rw [partition1, ← ih, cut1, cut1, spanP]
    by_cases hx : x = sep
    · simp [hx]
    · obtain ⟨a, b⟩ := spanP (· != sep) t
      cases b <;> simp [hx]

theorem hostnameOf_ne_some_nil {nl : Str} : hostnameOf nl ≠ some [] := by
  unfold hostnameOf
  simp only
  split
  · simp
  · rename_i hne
    rw [cut1_eq]
    rcases partition1_cases 37 (hostinfo nl).1 with e | ⟨a, b, -, e⟩
    · simpa [e] using hne
    · simp [e]

/-- the url handed to `get_filename` begins with `<scheme>://` (`URLInfo.url` of a
network scheme: http, https, ftp, …) -/
def HasScheme (url : Str) : Prop :=
  ∃ c t rest, url = (c :: t) ++ lit "://" ++ rest ∧ isAsciiAlpha c = true ∧ (c :: t).all isSchemeChar = true

theorem schemeChar_no_blank_colon {x : Nat} (h : isSchemeChar x = true) : 32 < x ∧ x ≠ 58 := by
  simp [isSchemeChar, isAsciiAlpha, isAsciiUpper, isAsciiLower, isAsciiDigit] at h
  omega

theorem cleanUrl_append {s : Str} (r : Str) (h0 : s ≠ []) (hs : ∀ x ∈ s, 32 < x) :
    cleanUrl (s ++ r) = s ++ r.filter (fun c => c != 9 && c != 10 && c != 13) := by
  obtain ⟨c, t, rfl⟩ := List.exists_cons_of_ne_nil h0
  unfold cleanUrl
  rw [List.cons_append, List.dropWhile_cons_of_neg (by simpa using hs c (by simp)), ← List.cons_append,
    List.filter_append, List.filter_eq_self.mpr]
  intro x hx
  have := hs x hx
  simp; omega

theorem splitScheme_append {c : Nat} {t : Str} (R : Str) (hc : isAsciiAlpha c = true)
    (hall : (c :: t).all isSchemeChar = true) :
    splitScheme ((c :: t) ++ 58 :: R) = ((c :: t).map asciiLower, R) := by
  have h58 : 58 ∉ c :: t := fun hm => (schemeChar_no_blank_colon (List.all_eq_true.mp hall 58 hm)).2 rfl
  rw [splitScheme, cut1_eq, partition1_append R h58]
  simp [hc, hall]

theorem urlsplitRest_scheme {ext : Ext} {sc u : Str} {sp : Split}
    (h : urlsplitRest ext sc u = .ok sp) : sp.scheme = sc := by
  unfold urlsplitRest at h
  split at h
  · cases h
  · cases h; rfl

theorem urlsplit_scheme_ne_nil {ext : Ext} {url : Str} {sp : Split} (hu : HasScheme url)
    (h : urlsplit ext url = .ok sp) : sp.scheme ≠ [] := by
  obtain ⟨c, t, rest, rfl, hc, hall⟩ := hu
  unfold urlsplit at h
  rw [urlsplitRest_scheme h, List.append_assoc, cleanUrl_append _ (List.cons_ne_nil c t)
    (fun x hx => (schemeChar_no_blank_colon (List.all_eq_true.mp hall x hx)).1), lit_ofList]
  -- unifying with `splitScheme_append` evaluates the filter on "://"
  exact splitScheme_append _ hc hall ▸ List.cons_ne_nil _ _

theorem urlToDirParts_no_empty_part {ext : Ext} {url : Str} {proto host alt : Bool} {ps : List (Option Str)}
    (hu : HasScheme url) (h : urlToDirParts ext url proto host alt = .ok ps) : some [] ∉ ps := by
  unfold urlToDirParts at h
  split at h
  · cases h
  · rename_i sp hsp
    simp only at h
    split at h
    · cases h
    · rename_i p2 hp2
      cases h
      have hhost : some [] ∉ p2 := by
        split at hp2
        · split at hp2
          · cases hp2
          · cases hp2; simp
          · cases hp2; simpa using hostnameOf_ne_some_nil.symm
        · cases hp2; simp
      have hsub (c : Bool) (P : List (Option Str)) : (if c then P.dropLast else P) ⊆ P := by
        split
        · exact List.dropLast_subset P
        · exact List.Subset.refl P
      intro hmem
      replace hmem := hsub _ _ hmem
      simp only [List.mem_append, List.mem_map, List.mem_filter] at hmem
      rcases hmem with (hp | hp) | ⟨a, ⟨_, ha⟩, hap⟩
      · split at hp
        · exact urlsplit_scheme_ne_nil hu hsp (by simpa using hp)
        · simp at hp
      · exact hhost hp
      · cases hap; simp at ha

theorem urlToFilename_ne_nil {ext : Ext} {url index f : Str} {alt : Bool}
    (h : urlToFilename ext url index alt = .ok f) (hi : index ≠ []) : f ≠ [] := by
  unfold urlToFilename at h
  split at h
  · cases h
  · cases h
    split
    · split
      · exact hi
      · rename_i hne; simpa using hne
    · simp

theorem pctGo_ne_nil (st : PSt) (s : Str) (h : st = .n → s ≠ []) : pctGo st s ≠ [] := by
  fun_induction pctGo st s
  case case1 => exact absurd rfl (h rfl)
  -- the two calls whose result is returned as it is (`.n` reads `%`, `.p` a hex digit); they leave state `n`
  case case4 ih | case6 ih => exact ih nofun
  all_goals exact List.cons_ne_nil _ _

theorem decode_ne_nil (o : Option Pend) (items : List Item) (h : o = none → items ≠ []) :
    decode o items ≠ [] := by
  fun_induction decode o items
  case case1 => exact absurd rfl (h rfl)
  -- the two calls whose result is returned as it is; they have a sequence pending
  case case6 ih | case8 ih => exact ih nofun
  all_goals exact List.cons_ne_nil _ _

theorem unquote_ne_nil {s : Str} (h : s ≠ []) : unquote s ≠ [] := by
  unfold unquote
  split
  · exact decode_ne_nil _ _ fun _ => pctGo_ne_nil _ _ fun _ => h
  · exact h

theorem unquoteAll_ok : ∀ {ps qs : List (Option Str)}, unquoteAll ps = .ok qs →
    qs = ps.map (·.map unquote)
  | [], _, h => by cases h; rfl
  | none :: _, _, h => by cases h
  | some p :: rest, _, h => by
    unfold unquoteAll at h
    split at h
    · cases h
    · cases h; simp [unquoteAll_ok ‹_›]

theorem rawParts_no_empty_part {cfg : NamerCfg} {ext : Ext} {isFtp : Bool} {url : Str} {ps : List (Option Str)}
    (hi : cfg.index ≠ []) (hu : HasScheme url) (h : rawParts cfg ext isFtp url = .ok ps) :
    some [] ∉ ps ∧ ps ≠ [] := by
  unfold rawParts at h
  simp only at h
  split at h
  · cases h
  · rename_i dirs hdirs
    have hd : some [] ∉ dirs := by
      split at hdirs
      · split at hdirs
        · cases hdirs
        · cases hdirs
          exact fun hp => urlToDirParts_no_empty_part hu ‹_› (List.mem_of_mem_drop hp)
      · cases hdirs; simp
    split at h
    · cases h
    · rename_i f hf
      have hidx : (if isFtp then listingName else cfg.index) ≠ [] := by
        split
        · rw [listingName, lit_ofList]; exact List.cons_ne_nil _ _
        · exact hi
      replace hf := urlToFilename_ne_nil hf hidx
      have hall : some [] ∉ dirs ++ [some f] := by simpa [hd] using hf.symm
      split at h
      · rw [unquoteAll_ok h]
        refine ⟨?_, by simp⟩
        simp only [List.mem_map, Option.map_eq_some_iff]
        rintro ⟨_, ho, s, rfl, hs⟩
        have : s = [] := Decidable.byContradiction (unquote_ne_nil · hs)
        exact hall (this ▸ ho)
      · cases h
        exact ⟨hall, by simp⟩

theorem safeAll_ok {cfg : SafeCfg} {tbl : Nat → Str} {sha : Str → Str} :
    ∀ {ps : List (Option Str)} {rs : List Str}, safeAll cfg tbl sha ps = .ok rs →
      rs.length = ps.length ∧ ∀ r ∈ rs, ∃ p, some p ∈ ps ∧ safeFilename cfg tbl sha p = .ok r
  | [], _, h => by cases h; simp
  | none :: _, _, h => by cases h
  | some p :: rest, _, h => by
    unfold safeAll at h
    split at h
    · cases h
    · split at h
      · cases h
      · cases h
        obtain ⟨hl, hall⟩ := safeAll_ok ‹_›
        refine ⟨by simp [hl], fun r hr => ?_⟩
        rcases List.mem_cons.mp hr with rfl | hr
        · exact ⟨p, by simp, ‹_›⟩
        · obtain ⟨p', hp', h'⟩ := hall r hr
          exact ⟨p', List.mem_cons_of_mem _ hp', h'⟩

/-- the directory prefix as `os.path.join` continues it -/
def rootPrefix (root : Str) : Str :=
  if root.isEmpty || root.getLast? == some 47 then root else root ++ [47]

theorem joinOne_of_no_slash (path b : Str) (hb : 47 ∉ b) : joinOne path b = rootPrefix path ++ b := by
  have : b.head? ≠ some 47 := fun h => hb (List.mem_of_mem_head? h)
  unfold joinOne rootPrefix
  split
  · rename_i h; simp at h; exact absurd h this
  · split <;> simp

theorem rootPrefix_eq_append_slash {p : Str} (h0 : p ≠ []) (hl : p.getLast? ≠ some 47) : rootPrefix p = p ++ [47] := by
  unfold rootPrefix
  rw [if_neg]
  simpa [h0] using hl

theorem rootPrefix_eq_self {p : Str} (h : p = [] ∨ p.getLast? = some 47) : rootPrefix p = p := by
  unfold rootPrefix
  rw [if_pos]
  simpa using h

theorem posixJoin_safe (root : Str) {cs : List Str} (h0 : cs ≠ []) (hcs : ∀ d ∈ cs, d ≠ [] ∧ 47 ∉ d) :
    posixJoin root cs = rootPrefix root ++ joinWith [47] cs := by
  induction cs generalizing root with
  | nil => exact absurd rfl h0
  | cons c cs ih =>
    obtain ⟨hc0, hc47⟩ := hcs c (by simp)
    rw [posixJoin, List.foldl_cons, joinOne_of_no_slash root c hc47]
    cases cs with
    | nil => rfl
    | cons d rest =>
      rw [← posixJoin, ih _ (List.cons_ne_nil _ _) (fun x hx => hcs x (List.mem_cons_of_mem _ hx)),
        rootPrefix_eq_append_slash (by simp [hc0]), joinWith_cons_cons]
      · simp
      · rw [List.getLast?_append_of_ne_nil _ hc0]
        exact fun h => hc47 (List.mem_of_getLast? h)

/-- For `os_type` unix or windows, a non-empty index name and a url that starts with `<scheme>://` (http and ftp
alike), whatever the library checks `ext` say: a path `get_filename` returns is the directory prefix followed by
one or more components separated by single slashes, splitting the part below the prefix at "/" gives back
exactly these components, and each is safe as in `safe_component`.  (DESIGN.md C15, T.) -/
theorem get_filename_contained (cfg : NamerCfg) (tbl : Nat → Str) (sha : Str → Str) (ext : Ext)
    (isFtp : Bool) (url p : Str)
    (hos : cfg.safe.os ≠ .other) (ht : TableSane tbl) (hd : ShaSane sha)
    (hi : cfg.index ≠ []) (hu : HasScheme url)
    (h : getFilename cfg tbl sha ext isFtp url = .ok p) :
    ∃ comps : List Str, comps ≠ [] ∧
      p = rootPrefix cfg.root ++ joinWith [47] comps ∧
      splitOn1 (joinWith [47] comps) 47 = comps ∧
      ∀ r ∈ comps, SafeComponent cfg.safe.noControl r ∧
        (cfg.safe.os = .windows → ∀ c ∈ r, c ∉ winChars) := by
  unfold getFilename at h
  split at h
  · cases h
  · rename_i comps hcomps
    cases h
    unfold components at hcomps
    split at hcomps
    · cases hcomps
    · rename_i parts hparts
      obtain ⟨hne, hnil⟩ := rawParts_no_empty_part hi hu hparts
      obtain ⟨hlen, hmem⟩ := safeAll_ok hcomps
      have hsafe : ∀ r ∈ comps, SafeComponent cfg.safe.noControl r ∧
          (cfg.safe.os = .windows → ∀ c ∈ r, c ∉ winChars) := fun r hr => by
        obtain ⟨p, hp, hr⟩ := hmem r hr
        exact safe_component _ tbl sha p r hos ht hd (fun h => hne (h ▸ hp)) hr
      have h0 : comps ≠ [] := List.ne_nil_of_length_pos (hlen ▸ List.length_pos_iff.mpr hnil)
      have h47 : ∀ d ∈ comps, d ≠ [] ∧ 47 ∉ d := fun d hd' => ⟨(hsafe d hd').1.ne_nil, (hsafe d hd').1.no_slash⟩
      exact ⟨comps, h0, posixJoin_safe cfg.root h0 h47,
        (splitOn1_eq_splitC _ 47).trans (splitC_join 47 _ h0 fun d hd' => (h47 d hd').2), hsafe⟩

/-- For every value of the two regular-expression matches (hence every Content-Disposition header) and every
current file name: the rename leaves the file name alone or puts one safe component into the directory of the
current file name (`posixpath.dirname`, continued as by `os.path.join`).  (DESIGN.md C15, T.) -/
theorem content_disposition_contained (cfg : SafeCfg) (tbl : Nat → Str) (sha : Str → Str)
    (cur : Str) (isHttp hasHeader : Bool) (m1 m2 : Option Str) (p : Str)
    (hos : cfg.os ≠ .other) (ht : TableSane tbl) (hd : ShaSane sha)
    (h : renameCD cfg tbl sha cur isHttp hasHeader m1 m2 = .ok p) :
    p = cur ∨ ∃ comp, p = rootPrefix (dirname cur) ++ comp ∧
      SafeComponent cfg.noControl comp ∧ (cfg.os = .windows → ∀ c ∈ comp, c ∉ winChars) := by
  unfold renameCD at h
  split at h
  · cases h; exact Or.inl rfl
  · split at h
    · cases h; exact Or.inl rfl
    · rename_i f hf
      split at h
      · cases h; exact Or.inl rfl
      · rename_i hfe
        split at h
        · cases h
        · rename_i n hn
          cases h
          have hsafe := safe_component cfg tbl sha f n hos ht hd (by simpa using hfe) hn
          exact Or.inr ⟨n, joinOne_of_no_slash _ n hsafe.1.no_slash, hsafe⟩

theorem rstripSlash_spec (s : Str) :
    (rstripSlash s).getLast? ≠ some 47 ∧ (rstripSlash s = [] → s.all (· == 47) = true) := by
  unfold rstripSlash
  refine ⟨?_, fun h => ?_⟩
  · have := List.head?_dropWhile_not (· == 47) s.reverse
    rw [List.getLast?_reverse]
    intro h
    simp [h] at this
  · simpa using List.dropWhile_eq_nil_iff.mp (List.reverse_eq_nil_iff.mp h)

theorem dirname_contained (pre name : Str) (hpre : pre = [] ∨ pre.getLast? = some 47) (h : 47 ∉ name) :
    dirname (pre ++ name) = if pre.all (· == 47) then pre else rstripSlash pre := by
  have hlast : (splitOn1 (pre ++ name) 47).getLast? = some name := by
    rcases hpre with rfl | hp
    · simp [splitOn1_eq_splitC, splitC_of_free h]
    · obtain ⟨y, rfl⟩ := List.getLast?_eq_some_iff.mp hp
      rw [List.append_assoc, List.singleton_append, splitOn1_eq_splitC, splitC_append, splitC_of_free h,
        List.getLast?_concat]
  unfold dirname
  simp [hlast]

/-- If the current file name is "directory part + one name" (as `get_filename_contained`
guarantees), the renamed file lies in that same directory part (its trailing slashes collapsed
to one, unless it consists of slashes only) and is one safe component. -/
theorem content_disposition_same_directory (cfg : SafeCfg) (tbl : Nat → Str) (sha : Str → Str)
    (pre name : Str) (isHttp hasHeader : Bool) (m1 m2 : Option Str) (p : Str)
    (hos : cfg.os ≠ .other) (ht : TableSane tbl) (hd : ShaSane sha)
    (hpre : pre = [] ∨ pre.getLast? = some 47) (hname : 47 ∉ name)
    (h : renameCD cfg tbl sha (pre ++ name) isHttp hasHeader m1 m2 = .ok p) :
    p = pre ++ name ∨ ∃ comp,
      p = (if pre.all (· == 47) then pre else rstripSlash pre ++ [47]) ++ comp ∧
      SafeComponent cfg.noControl comp ∧ (cfg.os = .windows → ∀ c ∈ comp, c ∉ winChars) := by
  refine (content_disposition_contained cfg tbl sha _ isHttp hasHeader m1 m2 p hos ht hd h).imp_right
    fun ⟨comp, hp, hs⟩ => ⟨comp, ?_, hs⟩
  rw [hp, dirname_contained pre name hpre hname]
  split
  · rw [rootPrefix_eq_self hpre]
  · rw [rootPrefix_eq_append_slash (fun h => ‹¬ _› ((rstripSlash_spec pre).2 h)) (rstripSlash_spec pre).1]

/-- the writer's anti-clobber suffixes (".f", ".d", ".1", ".html", …) keep a safe component safe -/
theorem safe_component_suffix (nc : Bool) (r suffix : Str) (hr : SafeComponent nc r)
    (hs : ∀ c ∈ suffix, c ≠ 47 ∧ 32 ≤ c) (hlast : ∃ init l, suffix = init ++ [l] ∧ l ≠ 46) :
    SafeComponent nc (r ++ suffix) := by
  obtain ⟨_, _, _, h47, hctl⟩ := hr
  obtain ⟨init, l, rfl, hl⟩ := hlast
  obtain ⟨h0, h1, h2⟩ := (notDots_iff (r ++ (init ++ [l]))).mp (.inl ⟨l, by simp, hl⟩)
  refine ⟨h0, h1, h2, fun h => ?_, fun hnc c hc => ?_⟩
  · exact (List.mem_append.mp h).elim h47 fun h => (hs 47 h).1 rfl
  · exact (List.mem_append.mp hc).elim (hctl hnc c) fun h => (hs c h).2

/-- The boundary of the `os_type` assumption, a witness: with another string than "unix" / "windows" the separator
in "../x" is not escaped (the application never builds such a namer). -/
theorem other_os_not_contained :
    safeFilename ⟨.other, true, true, .none, 0⟩ (fun c => [c]) (fun _ => []) (lit "../x")
      = .ok (lit "../x") := by
  repeat rw [lit_ofList]
  decide +kernel

/-- Whatever `--restrict-file-names` list the user gives (any subset, order, repetition, empty), the namer the
setup task builds has `os_type` "unix" or "windows", never an absent / other value that would switch the escaping
of "/" off. -/
theorem options_os_known (modes : List Mode) (maxLen : Int) : (optionsToCfg modes maxLen).os ≠ .other := by
  unfold optionsToCfg
  simp only
  split <;> simp

/-- `get_filename_contained` for the namer built from the command line (restrict modes, length limit, prefix,
non-empty default page, directory options, cut, protocol / host directories): no assumption on `os_type` is left. -/
theorem argv_get_filename_contained (modes : List Mode) (maxLen : Int) (root index : Str) (nUrls : Nat)
    (pr rc : Bool) (d : DirOpt) (cut : Nat) (protocol hostname : Bool)
    (tbl : Nat → Str) (sha : Str → Str) (ext : Ext) (isFtp : Bool) (url p : Str)
    (ht : TableSane tbl) (hd : ShaSane sha) (hi : index ≠ []) (hu : HasScheme url)
    (h : getFilename (namerOfArgs modes maxLen root index nUrls pr rc d cut protocol hostname)
          tbl sha ext isFtp url = .ok p) :
    ∃ comps : List Str, comps ≠ [] ∧
      p = rootPrefix root ++ joinWith [47] comps ∧
      splitOn1 (joinWith [47] comps) 47 = comps ∧
      ∀ r ∈ comps, SafeComponent (!modes.contains .nocontrol) r ∧
        (modes.contains .windows = true → ∀ c ∈ r, c ∉ winChars) := by
  obtain ⟨comps, h1, h2, h3, h4⟩ :=
    get_filename_contained _ tbl sha ext isFtp url p (options_os_known modes maxLen) ht hd hi hu h
  refine ⟨comps, h1, h2, h3, fun r hr => ⟨(h4 r hr).1, fun hwin => (h4 r hr).2 ?_⟩⟩
  simp [namerOfArgs, optionsToCfg, List.contains_iff_mem.mp hwin]

/-- `content_disposition_contained`, without its Windows clause, for a writer built from the command line -/
theorem argv_content_disposition_contained (modes : List Mode) (maxLen : Int)
    (tbl : Nat → Str) (sha : Str → Str) (cur : Str) (isHttp hasHeader : Bool) (m1 m2 : Option Str) (p : Str)
    (ht : TableSane tbl) (hd : ShaSane sha)
    (h : renameCD (optionsToCfg modes maxLen) tbl sha cur isHttp hasHeader m1 m2 = .ok p) :
    p = cur ∨ ∃ comp, p = rootPrefix (dirname cur) ++ comp ∧
      SafeComponent (!modes.contains .nocontrol) comp :=
  (content_disposition_contained _ tbl sha cur isHttp hasHeader m1 m2 p (options_os_known modes maxLen) ht hd h).imp_right
    fun ⟨comp, h1, h2, _⟩ => ⟨comp, h1, h2⟩

example : (optionsToCfg [.ascii, .lower] 160).os = .unix := by decide
example : (optionsToCfg [.nocontrol, .windows, .upper] 0) = ⟨.windows, false, false, .upper, 0⟩ := rfl
example : (optionsToCfg [] 160) = ⟨.unix, true, false, .none, 160⟩ := rfl

example : safeFilename ⟨.unix, true, true, .none, 0⟩ (fun c => [c]) (fun _ => []) (lit "..") = .ok (lit "%2E%2E") := by
  repeat rw [lit_ofList]
  decide +kernel
example : safeFilename ⟨.unix, true, true, .lower, 0⟩ (fun c => [c]) (fun _ => []) [97, 0, 233] = .ok (lit "a%00%c3%a9") := by
  repeat rw [lit_ofList]
  decide +kernel
example : safeFilename ⟨.unix, true, true, .none, 9⟩ (fun c => [c]) (fun _ => lit "0123456789abcdef") (lit "/////") = .ok (lit "%01234567") := by
  repeat rw [lit_ofList]
  decide +kernel
example : safeFilename ⟨.windows, true, false, .none, 0⟩ (fun c => [c]) (fun _ => []) (lit "a.") = .ok (lit "a%2E") := by
  repeat rw [lit_ofList]
  decide +kernel
example : safeFilename ⟨.windows, true, false, .upper, 0⟩ (fun c => [c]) (fun _ => []) (lit "x. ") = .ok (lit "X.%20") := by
  repeat rw [lit_ofList]
  decide +kernel
example : safeFilename ⟨.windows, true, false, .none, 0⟩ (fun c => [c]) (fun _ => []) [] = .ok [] := by decide
example : safeFilename ⟨.unix, true, false, .none, 0⟩ (fun c => [c]) (fun _ => []) [0xD800] = .error .UnicodeEncodeError := by decide
example : unquote (lit "%2E%2E%2Fa%FF") = [46, 46, 47, 97, 0xFFFD] := by
  repeat rw [lit_ofList]
  decide +kernel
example : getFilename ⟨⟨.unix, true, true, .none, 0⟩, lit "dl", lit "index.html", true, 0, false, true⟩
    (fun c => [c]) (fun _ => []) ⟨true, true⟩ true (lit "ftp://h/a%2Fb/%2E%2E/")
    = .ok (lit "dl/h/a%2Fb/%2E%2E/.listing") := by
  repeat rw [lit_ofList]
  decide +kernel
example : getFilename ⟨⟨.unix, true, true, .none, 0⟩, lit "dl", lit "index.html", true, 0, false, true⟩
    (fun c => [c]) (fun _ => []) ⟨true, true⟩ false (lit "http://h:81/x/y?q=/")
    = .ok (lit "dl/h:81/x/y/y?q=%2F") := by
  repeat rw [lit_ofList]
  decide +kernel
example : dirname (lit "dl//h/a.txt") = lit "dl//h" := by
  repeat rw [lit_ofList]
  decide +kernel
-- the user-info bracket case (KNOWN_FINDINGS.txt `fixed:` C15 858ec21): the normal form of
-- `http://[u@h/` is `http://%5Bu@h/`, for which a contained path is chosen
example : getFilename ⟨⟨.unix, true, true, .none, 0⟩, lit "dl", lit "index.html", true, 0, false, true⟩
    (fun c => [c]) (fun _ => []) ⟨true, true⟩ false (lit "http://%5Bu@h/") = .ok (lit "dl/h/index.html") := by
  repeat rw [lit_ofList]
  decide +kernel
example : HasScheme (lit "ftp://h/a") := by
  refine ⟨102, lit "tp", lit "h/a", ?_⟩
  repeat rw [lit_ofList]
  decide +kernel
example : renameCD ⟨.unix, true, true, .none, 0⟩ (fun c => [c]) (fun _ => []) (lit "dl/h/a.txt") true true
    (some (lit "\"../../etc/passwd\"")) (some (lit "../../etc/passwd")) = .ok (lit "dl/h/..%2F..%2Fetc%2Fpasswd") := by
  repeat rw [lit_ofList]
  decide +kernel

end Wpull.Path
