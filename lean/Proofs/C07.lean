/-
C07 — Each CDX line addresses exactly the record it describes: property theorems over the model `Wpull.Warc`,
most of them read off the invariant of `Proofs/Lemmas/WarcHistory.lean`.
-/
import Proofs.Lemmas.WarcHistory
import Proofs.Lemmas.Lit
namespace Wpull.Warc

/-- the Warcinfo-ID stamp of `newEntry` leaves what a CDX line is built from as it was -/
theorem cdx_entry_fields (r : Record) (w : Str) :
    (r.set kWarcinfoId w).get? kUri = r.get? kUri ∧ (r.set kWarcinfoId w).get? kId = r.get? kId ∧
    (r.set kWarcinfoId w).get? kPayloadDigest = r.get? kPayloadDigest ∧ (r.set kWarcinfoId w).block = r.block := by
  simp [Record.get?_set, normalizeName_ne]

/-- **cdx_range_is_record** — for every configuration (gzip or not, rollover, appending to pre-existing files of any
content), after any history of session events and the final `close()`: every logged write (file, offset, size)
addresses exactly the bytes written for that record — its gzip member when compressing, its serialisation
otherwise — in the file as it stands at the end; and, with CDX on, the CDX lines are precisely the lines of the
logged response records, built from those (file, offset, size). -/
theorem cdx_range_is_record (c : Cfg) (e : Env) (existing : List (FName × Bytes)) (ops : List Op) (lb : Option Bytes) :
    let s := life c e existing ops lb
    (∀ en ∈ s.log, en.offset + en.size ≤ (content s en.file).length ∧
      ((content s en.file).drop en.offset).take en.size =
        (if c.compress then e.member en.record.idx (serialize en.record) else serialize en.record)) ∧
    (c.cdx = true → s.cdxLines = (s.log.filter (fun en => wantsCdx en.record)).map
        (fun en => cdxLine c e en.file en.record en.size en.offset)) :=
  have h := life_final c e existing ops lb
  ⟨h.slice, fun hc => h.cdx.trans (if_pos hc)⟩

/-- **offset_is_sum_of_earlier_sizes** — `file_is_record_concat` (C05) with `flatOf` folded.  The statement mentions
no offset: an entry's offset is by definition (`newEntry`) the length of its file at the time of the write. -/
theorem offset_is_sum_of_earlier_sizes (c : Cfg) (e : Env) (existing : List (FName × Bytes)) (ops : List Op)
    (lb : Option Bytes) (f : FName)
    (hf : (∃ en ∈ (life c e existing ops lb).log, en.file = f) ∨ c.appending = true) :
    content (life c e existing ops lb) f =
      preOf c existing f ++ flatOf c e (life c e existing ops lb).log f :=
  (life_final c e existing ops lb).concat.weak f hf

/-- **one_line_per_response** — with CDX on, the number of CDX lines equals the number of logged records
with `wantsCdx` (type `response`, content type `application/http; msgtype=response`). -/
theorem one_line_per_response (c : Cfg) (e : Env) (existing : List (FName × Bytes)) (ops : List Op) (lb : Option Bytes)
    (hc : c.cdx = true) :
    (life c e existing ops lb).cdxLines.length =
      ((life c e existing ops lb).log.filter (fun en => wantsCdx en.record)).length := by
  rw [(cdx_range_is_record c e existing ops lb).2 hc, List.length_map]

/-- **write_record_appends_pair** — the model's `writeRecord` is one step that logs the record and, for a
response record with CDX on, appends its line to the index: between two session events no response record
is logged while its line is still pending.  (In recorder.py the line is written after the journal is removed
and the size taken; a kill between them is in neither this model nor that of C06.) -/
theorem write_record_appends_pair (c : Cfg) (e : Env) (s : St) (r : Record) :
    (writeRecord c e s r).log = s.log ++ [newEntry c e s r] ∧
    (writeRecord c e s r).cdxLines = s.cdxLines ++
      (if c.cdx && wantsCdx (newEntry c e s r).record then [lineOf c e (newEntry c e s r)] else []) :=
  ⟨writeRecord_log c e s r, writeRecord_cdxLines c e s r⟩

/-- **cdx_complete_at_every_step** — what `cdx_range_is_record` says after `close()` holds after any number `k` of
session events of any history (every point at which the process may die or the files may be read), of the index
and the files as they stand at that moment. -/
theorem cdx_complete_at_every_step (c : Cfg) (e : Env) (existing : List (FName × Bytes)) (ops : List Op) (k : Nat)
    (hc : c.cdx = true) :
    let s := run c e (initSt c e existing) (ops.take k)
    s.cdxLines = (s.log.filter (fun en => wantsCdx en.record)).map
        (fun en => cdxLine c e en.file en.record en.size en.offset) ∧
    (∀ en ∈ s.log, en.offset + en.size ≤ (content s en.file).length ∧
      ((content s en.file).drop en.offset).take en.size =
        (if c.compress then e.member en.record.idx (serialize en.record) else serialize en.record)) :=
  have h := run_inv c e existing (ops.take k) _ (initSt_inv c e existing)
  ⟨h.cdx.trans (if_pos hc), h.slice⟩

/-- **cdx_file_started_over** — a life without `appending` on a prefix that was used before: whatever `PREFIX.cdx`
held (`old`), afterwards it is the header line followed by exactly the lines of the response records this life
logged — no line of the earlier life survives the archive being started over. -/
theorem cdx_file_started_over (c : Cfg) (e : Env) (existing : List (FName × Bytes)) (ops : List Op) (lb : Option Bytes)
    (old : Option (List Str)) (hc : c.cdx = true) (ha : c.appending = false) :
    cdxFile c old (life c e existing ops lb) =
      cdxHeader :: ((life c e existing ops lb).log.filter (fun en => wantsCdx en.record)).map
        (fun en => cdxLine c e en.file en.record en.size en.offset) := by
  simp [cdxFile, cdxHeaderWritten, (cdx_range_is_record c e existing ops lb).2 hc, hc, ha]

/-- **cdx_file_appended** — with `appending`, over an index that exists: the old lines stay in front and no
second header is written. -/
theorem cdx_file_appended (c : Cfg) (e : Env) (existing : List (FName × Bytes)) (ops : List Op) (lb : Option Bytes)
    (old : List Str) (hc : c.cdx = true) (ha : c.appending = true) :
    cdxFile c (some old) (life c e existing ops lb) =
      old ++ ((life c e existing ops lb).log.filter (fun en => wantsCdx en.record)).map
        (fun en => cdxLine c e en.file en.record en.size en.offset) := by
  simp [cdxFile, cdxHeaderWritten, (cdx_range_is_record c e existing ops lb).2 hc, ha]

/-- **fields_match_record** — the columns of a CDX line are the record's own fields: URL,
timestamp of its WARC-Date, MIME and status read from its block, its payload digest without
the `sha1:` label, the size and offset of the write, the current file's name, its record id. -/
theorem fields_match_record (c : Cfg) (e : Env) (f : FName) (r : Record) (size off : Nat) (uri date d id : Str)
    (h1 : r.get? kUri = some uri) (h2 : r.get? kDate = some date)
    (h3 : r.get? kPayloadDigest = some (sha1Prefix ++ d)) (h4 : r.get? kId = some id) :
    cdxLine c e f r size off = joinWith [32] [uri, e.ts date, (cdxMimeStatus r.block).1, (cdxMimeStatus r.block).2, d,
      decimal size, decimal off, render c f, id] := by
  simp [cdxLine, h1, h2, h3, h4, startsWith_append]

/-- without a payload digest the checksum column is `-` -/
theorem fields_match_record_nodigest (c : Cfg) (e : Env) (f : FName) (r : Record) (size off : Nat)
    (h3 : r.get? kPayloadDigest = none) :
    cdxLine c e f r size off = joinWith [32] [(r.get? kUri).getD [], e.ts ((r.get? kDate).getD []),
      (cdxMimeStatus r.block).1, (cdxMimeStatus r.block).2, [45], decimal size, decimal off, render c f,
      (r.get? kId).getD []] := by
  have : startsWith ([] : List Nat) sha1Prefix = false := by decide +kernel
  simp [cdxLine, h3, this]

/-- **status_mime_from_wire_header** — for every header block `hdr` that `Stream.read_response` accepts (any size: no
4 KiB cap; any line ends, folding) and any body, `get_http_header` parses exactly `hdr`: the status and MIME columns
are a function of the wire header block alone, never of the body.  Not claimed, and false: that they are those of
the wire header (`status_mime_full_counterexample`). -/
theorem status_mime_from_wire_header (hdr body : Bytes) (h : WireHeader hdr) :
    httpHeaderBytes (hdr ++ body) = some hdr ∧ cdxMimeStatus (hdr ++ body) = cdxMimeStatus (hdr ++ []) := by
  have h1 := fun body => httpHeaderBytes_wire hdr body h
  refine ⟨h1 body, ?_⟩
  unfold cdxMimeStatus getHttpHeader
  rw [h1 body, h1 []]

-- concrete responses: multi-line header, LF-only, folded parameter, `+`/`.` subtype, a body
-- that itself looks like a header
set_option maxRecDepth 100000 in
example : cdxMimeStatus (lit "HTTP/1.1 404 Not Found\r\nServer: x\r\ncontent-type: application/xhtml+xml; charset=utf-8\r\n\r\nHTTP/1.1 200 OK\r\nContent-Type: a/b\r\n\r\n")
    = (lit "application/xhtml+xml", lit "404") := by
  repeat rw [lit_ofList]
  decide +kernel
example : cdxMimeStatus (lit "HTTP/1.0  200\nX: 1\nContent-Type:application/vnd.ms-excel;\n\tq=1\n\nbody")
    = (lit "application/vnd.ms-excel", lit "200") := by
  repeat rw [lit_ofList]
  decide +kernel
example : cdxMimeStatus (lit "HTTP/1.1 200 OK\r\nContent-Type: garbage\r\n\r\n") = (lit "-", lit "200") := by
  repeat rw [lit_ofList]
  decide +kernel
example : cdxMimeStatus (lit "no header here") = (lit "-", lit "-") := by
  repeat rw [lit_ofList]
  decide +kernel

/-- the Content-Type value of a header block read the way it is on the wire: lines end at LF
only (what `Stream.read_response` delivers), the first line whose name is `Content-Type` -/
def wireContentType (hdr : Bytes) : Str :=
  match ((splitOn1 hdr 10).drop 1).filterMap (fun line =>
      match findSub line [58] with
      | none => none
      | some i => if asciiTitle (strip (line.take i)) == contentTypeName then some (strip (line.drop (i + 1))) else none) with
  | v :: _ => v
  | [] => []

/-- the full statement: the MIME column is the MIME type of the wire header -/
def status_mime_full : Prop :=
  ∀ hdr body, WireHeader hdr → (cdxMimeStatus (hdr ++ body)).1 = mimeOf (wireContentType hdr)

/-- **status_mime_full_counterexample** — the known finding `cdx-mime-linesep`: a NEL inside a
field value (one header line on the wire) is taken for a line break by `str.splitlines()`;
the CDX line then says `evil/x` where the response's Content-Type is `text/html`. -/
theorem status_mime_full_counterexample : ¬ status_mime_full := by
  intro h
  have := h (([lit "HTTP/1.1 200 OK", lit "X-Note: a\u0085Content-Type: evil/x", lit "Content-Type: text/html"].map
    (· ++ [10])).flatten ++ [10]) [] (.of_lines _ _ rfl (by repeat rw [lit_ofList]; decide +kernel))
  revert this
  repeat rw [lit_ofList]
  decide +kernel

-- non-vacuity of the history theorems: one exchange, appending to a 3-byte file, CDX on;
-- `some 0` is falsy in Python: rollover after each session, the existing file not skipped
set_option maxRecDepth 100000 in
example :
    let c : Cfg := { compress := true, digests := true, cdx := true, appending := true, maxSize := some 0,
                     revisit := false, pfx := lit "o", software := lit "s", extra := [], wrapBuiltin := [[], [], []] }
    let e : Env := { H := fun b => decimal b.length, member := fun i b => i :: b, uuid := decimal, date := fun _ => lit "d",
                     ts := fun _ => lit "0" }
    let s := life c e [(.numbered 0, [1, 2, 3])] [.beginRequest 0 (lit "u") (lit "i"),
      .endRequest 0 (lit "GET / HTTP/1.1\r\n\r\n") 18, .beginResponse 0,
      .endResponse 0 (lit "HTTP/1.1 200 OK\r\nContent-Type: a/b\r\n\r\nhi") none, .closeSession] none
    (s.log.map (fun en => (en.file, en.offset))).head? = some (.numbered 0, 3) ∧
    (s.log.map (·.file)) = [.numbered 0, .numbered 0, .numbered 0, .numbered 1] ∧ s.cdxLines.length = 1 := by
  repeat rw [lit_ofList]
  decide +kernel

end Wpull.Warc
