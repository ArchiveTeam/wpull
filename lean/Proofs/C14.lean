/-
C14 — the URL table behaves as a keyed set with a status state machine.

`step` (rows that refer to interned strings by id) refines `sstep` (records keyed by the URL) for
every history: `step_refines`, `run_refines`.  The clauses of the property that speak of stored
URLs are facts about the reference, carried over by `view_step` and `out_step`; those about
refused calls, reopening and two live tables unfold `step` / `step2`.
-/
import Wpull.Table
import Proofs.Lemmas.List
namespace Wpull.Table

theorem foldl_prefix {α β : Type} {f : List α → β → List α} (h : ∀ a b, a <+: f a b)
    (l : List β) (a : List α) : a <+: l.foldl f a := by
  induction l generalizing a with
  | nil => exact List.prefix_rfl
  | cons b t ih => exact (h a b).trans (ih _)

theorem any_map_congr {α β : Type} {f : α → β} {p : β → Bool} {q : α → Bool} {l : List α}
    (h : ∀ x ∈ l, p (f x) = q x) : (l.map f).any p = l.any q := by
  induction l with
  | nil => rfl
  | cons a t ih => simp_all

theorem find?_map_congr {α β : Type} {f : α → β} {p : β → Bool} {q : α → Bool} {l : List α}
    (h : ∀ x ∈ l, p (f x) = q x) : (l.map f).find? p = (l.find? q).map f := by
  induction l with
  | nil => rfl
  | cons a t ih =>
    rw [List.map_cons, List.find?_cons, List.find?_cons, h a (List.mem_cons_self ..),
      ih fun x hx => h x (List.mem_cons_of_mem _ hx)]
    cases q a <;> rfl

theorem filter_map_congr {α β : Type} {f : α → β} {p : β → Bool} {q : α → Bool} {l : List α}
    (h : ∀ x ∈ l, p (f x) = q x) : (l.map f).filter p = (l.filter q).map f := by
  rw [List.filter_map]; exact congrArg _ (List.filter_congr h)

theorem filterMap_eq_map {α β : Type} {f : α → Option β} {g : α → β} {l : List α}
    (h : ∀ x ∈ l, f x = some (g x)) : l.filterMap f = l.map g := by
  induction l with
  | nil => rfl
  | cons a t ih => simp_all

theorem idOf_eq (ss : List Str) (s : Str) : idOf ss s = ss.idxOf? s := by
  induction ss with
  | nil => rfl
  | cons a t ih => simp [idOf, List.idxOf?_cons, ih]

theorem idOf_eq_none_iff {ss : List Str} {s : Str} : idOf ss s = none ↔ s ∉ ss := by
  rw [idOf_eq, List.idxOf?_eq_none_iff]

theorem idOf_eq_some_iff {ss : List Str} (nd : ss.Nodup) {s : Str} {i : Nat} :
    idOf ss s = some i ↔ strOf ss i = some s := by
  rw [idOf_eq, List.idxOf?_eq_some_iff, strOf, List.getElem?_eq_some_iff]
  refine exists_congr fun hi => and_iff_left_of_imp ?_
  -- an earlier occurrence of the same string would be a duplicate
  rintro rfl j hj e
  have hj' := Nat.lt_trans hj hi
  exact Nat.ne_of_lt hj ((List.getElem?_inj hj' nd).mp (by simp [hi, hj', e]))

theorem idOf_lt {ss : List Str} {s : Str} {i : Nat} (h : idOf ss s = some i) : i < ss.length := by
  rw [idOf_eq, List.idxOf?_eq_some_iff] at h
  exact h.1

theorem mem_intern {ss : List Str} {s x : Str} : x ∈ intern ss s ↔ x ∈ ss ∨ x = s := by
  unfold intern; split <;> simp_all

theorem intern_nodup {ss : List Str} (s : Str) (nd : ss.Nodup) : (intern ss s).Nodup := by
  unfold intern; split
  · exact nd
  · exact List.nodup_concat nd ‹_›

theorem intern_prefix (ss : List Str) (s : Str) : ss <+: intern ss s := by
  unfold intern; split
  · exact List.prefix_rfl
  · exact List.prefix_append ..

theorem internAll_prefix (ss l : List Str) : ss <+: internAll ss l :=
  foldl_prefix intern_prefix l ss

theorem internAll_nodup {ss : List Str} (l : List Str) (nd : ss.Nodup) :
    (internAll ss l).Nodup := by
  induction l generalizing ss with
  | nil => exact nd
  | cons a t ih => exact ih (intern_nodup a nd)

theorem mem_internAll {ss l : List Str} {x : Str} : x ∈ internAll ss l ↔ x ∈ ss ∨ x ∈ l := by
  induction l generalizing ss with
  | nil => simp [internAll]
  | cons a t ih => exact ih.trans (by simp [mem_intern, or_assoc])

/-- the part of a row that no status operation touches -/
structure Key where
  id : Nat
  urlId : Nat
  parentId : Option Nat
  rootId : Option Nat

def Row.key (r : Row) : Key := ⟨r.id, r.urlId, r.parentId, r.rootId⟩

/-- foreign keys point into `url_strings` -/
def KeyOk (ss : List Str) (k : Key) : Prop :=
  k.urlId < ss.length ∧ (∀ i, k.parentId = some i → i < ss.length) ∧
    (∀ i, k.rootId = some i → i < ss.length)

/-- The schema constraints, over the string table and the rows' keys only: so they survive any rewrite of the value
columns (`inv_mapRows`), and can be stated for the enlarged string table in the middle of `add_many`. -/
structure KInv (ss : List Str) (ks : List Key) : Prop where
  /-- UNIQUE(url_strings.url) -/
  nodup : ss.Nodup
  ok : ∀ k ∈ ks, KeyOk ss k
  /-- UNIQUE(queued_urls.url_string_id) -/
  uniq : ks.Pairwise (fun a b => a.urlId ≠ b.urlId)
  ids : ks.Pairwise (fun a b => a.id < b.id)

def Inv (t : Table) : Prop := KInv t.strings (t.rows.map Row.key)

theorem inv_empty : Inv Table.empty := ⟨.nil, nofun, .nil, .nil⟩

theorem KInv.res_url {ss : List Str} {rows : List Row} (h : KInv ss (rows.map Row.key))
    {r : Row} (hr : r ∈ rows) : strOf ss r.urlId = some (res ss r).url := by
  have : r.urlId < ss.length := (h.ok _ (List.mem_map_of_mem hr)).1
  simp [res, strOf, this]

/-- the central fact: selecting by string id = selecting by URL string -/
theorem KInv.match_url {ss : List Str} {rows : List Row} (h : KInv ss (rows.map Row.key))
    {r : Row} (hr : r ∈ rows) (u : Str) : some r.urlId = idOf ss u ↔ (res ss r).url = u := by
  rw [eq_comm, idOf_eq_some_iff h.nodup, h.res_url hr, Option.some.injEq]

theorem res_append {ss : List Str} {r : Row} (h : KeyOk ss r.key) (m : List Str) :
    res (ss ++ m) r = res ss r := by
  have e : ∀ {i}, i < ss.length → strOf (ss ++ m) i = strOf ss i := List.getElem?_append_left
  unfold res
  rw [e (i := r.urlId) h.1, Option.bind_congr (o := r.parentId) fun i hi => e (h.2.1 i hi),
    Option.bind_congr (o := r.rootId) fun i hi => e (h.2.2 i hi)]

theorem KeyOk.append {ss : List Str} {k : Key} (h : KeyOk ss k) (m : List Str) :
    KeyOk (ss ++ m) k := by
  have e : ss.length ≤ (ss ++ m).length := by simp
  exact ⟨Nat.lt_of_lt_of_le h.1 e, fun i hi => Nat.lt_of_lt_of_le (h.2.1 i hi) e,
    fun i hi => Nat.lt_of_lt_of_le (h.2.2 i hi) e⟩

theorem KInv.snoc {ss : List Str} {rows : List Row} (h : KInv ss (rows.map Row.key)) {r : Row}
    (hk : KeyOk ss r.key) (hu : ∀ a ∈ rows, a.urlId ≠ r.urlId) (hi : ∀ a ∈ rows, a.id < r.id) :
    KInv ss ((rows ++ [r]).map Row.key) := by
  have hs : ∀ {R : Key → Key → Prop}, (rows.map Row.key).Pairwise R → (∀ a ∈ rows, R a.key r.key) →
      ((rows ++ [r]).map Row.key).Pairwise R := fun h1 h2 => by
    rw [List.map_append, List.pairwise_append]
    exact ⟨h1, List.pairwise_singleton .., List.forall_mem_map.mpr fun a ha b hb =>
      List.mem_singleton.mp hb ▸ h2 a ha⟩
  refine ⟨h.nodup, ?_, hs h.uniq hu, hs h.ids hi⟩
  rw [List.map_append]
  exact List.forall_concat h.ok hk

theorem KInv.sublist {ss : List Str} {ks ks' : List Key} (h : KInv ss ks)
    (hs : ks'.Sublist ks) : KInv ss ks' :=
  ⟨h.nodup, fun k hk => h.ok k (hs.subset hk), h.uniq.sublist hs, h.ids.sublist hs⟩

theorem KInv.urls_distinct {ss : List Str} {rows : List Row} (h : KInv ss (rows.map Row.key)) :
    (rows.map (res ss)).Pairwise (fun a b => a.url ≠ b.url) := by
  rw [List.pairwise_map]
  refine (List.pairwise_map.mp h.uniq).imp_of_mem fun {a b} ha hb hab e => hab ?_
  exact Option.some.inj (((h.match_url ha _).mpr e).trans ((h.match_url hb _).mpr rfl).symm)

theorem abs_mapRows {t : Table} {g : Row → Row} {g' : Rec → Rec}
    (hg : ∀ r ∈ t.rows, res t.strings (g r) = g' (res t.strings r)) :
    abs { t with rows := t.rows.map g } = { abs t with rows := (abs t).rows.map g' } := by
  simp only [abs, List.map_map]
  congr 1
  exact List.map_congr_left hg

theorem inv_mapRows {t : Table} (h : Inv t) {g : Row → Row} (hg : ∀ r, (g r).key = r.key) :
    Inv { t with rows := t.rows.map g } := by
  unfold Inv
  rw [List.map_map, List.map_congr_left (f := Row.key ∘ g) fun r _ => hg r]
  exact h

theorem updateWhere_abs {t : Table} (h : Inv t) (u : Str) (f : Cols → Cols) :
    abs (updateWhere t u f) = sUpdateWhere (abs t) u f :=
  abs_mapRows fun r hr => by
    simp only [apply_ite (res t.strings), h.match_url hr u]
    rfl

theorem updateWhere_inv {t : Table} (h : Inv t) (u : Str) (f : Cols → Cols) :
    Inv (updateWhere t u f) :=
  inv_mapRows h fun r => by split <;> rfl

theorem removeMany_refines {ss : List Str} (us : List Str) (rows : List Row)
    (h : KInv ss (rows.map Row.key)) :
    (us.foldl (removeOne ss) rows).map (res ss) = us.foldl sRemoveOne (rows.map (res ss))
      ∧ KInv ss ((us.foldl (removeOne ss) rows).map Row.key) := by
  induction us generalizing rows with
  | nil => exact ⟨rfl, h⟩
  | cons u t ih =>
    have e : sRemoveOne (rows.map (res ss)) u = (removeOne ss rows u).map (res ss) :=
      filter_map_congr fun r hr => by simp only [KInv.match_url h hr u]
    rw [List.foldl_cons, List.foldl_cons, e]
    exact ih _ (h.sublist (List.filter_sublist.map _))

/-- mutating the first matching ORM object is, under UNIQUE(url_string_id), an update keyed by
the string id -/
theorem checkOutRows_eq (p : Cols → Bool) {rows : List Row}
    (hd : rows.Pairwise (fun a b => a.urlId ≠ b.urlId)) :
    checkOutRows p rows = (rows.find? (fun r => p r.cols)).map fun r =>
      ({ r with cols := r.cols.setStatus .in_progress },
       rows.map fun y =>
        if y.urlId = r.urlId then { y with cols := y.cols.setStatus .in_progress } else y) := by
  fun_induction checkOutRows p rows with
  | case1 => rfl
  | case2 r rest hp r' =>
    rw [List.find?_cons_of_pos (p := fun r : Row => p r.cols) hp, Option.map_some, List.map_cons,
      if_pos rfl]
    -- the rows behind the marked one carry other string ids
    congr 3
    exact (List.map_id' _).symm.trans
      (List.map_congr_left fun y hy => (if_neg (Ne.symm ((List.pairwise_cons.mp hd).1 y hy))).symm)
  | case3 r rest hp ih =>
    rw [List.pairwise_cons] at hd
    rw [List.find?_cons_of_neg (p := fun r : Row => p r.cols) hp, ih hd.2]
    cases hf : rest.find? (fun r => p r.cols) with
    | none => rfl
    | some r0 =>
      simp only [Option.map_some, List.map_cons, if_neg (hd.1 r0 (List.mem_of_find?_eq_some hf))]

theorem le_maxId {rows : List Row} {r : Row} (h : r ∈ rows) : r.id ≤ maxId rows := by
  induction rows with
  | nil => cases h
  | cons a t ih =>
    rcases List.mem_cons.mp h with rfl | e
    · exact Nat.le_max_left ..
    · exact Nat.le_trans (ih e) (Nat.le_max_right ..)

theorem maxId_append (a b : List Row) : maxId (a ++ b) = max (maxId a) (maxId b) := by
  induction a with
  | nil => simp [maxId]
  | cons x t ih => simp only [List.cons_append, maxId, ih, Nat.max_assoc]

/-- what lets `add_many` find the rows it inserted as "id > max(id) before" -/
def Ext (rows rows' : List Row) : Prop :=
  ∃ new, rows' = rows ++ new ∧ ∀ r ∈ new, maxId rows < r.id

theorem Ext.refl (rows : List Row) : Ext rows rows :=
  ⟨[], (List.append_nil _).symm, fun _ h => nomatch h⟩

theorem Ext.trans {a b c : List Row} (h1 : Ext a b) (h2 : Ext b c) : Ext a c := by
  obtain ⟨n1, rfl, l1⟩ := h1
  obtain ⟨n2, rfl, l2⟩ := h2
  refine ⟨n1 ++ n2, List.append_assoc .., fun r hr => ?_⟩
  rcases List.mem_append.mp hr with hr | hr
  · exact l1 r hr
  · exact Nat.lt_of_le_of_lt (by rw [maxId_append]; exact Nat.le_max_left ..) (l2 r hr)

theorem Ext.filter {a b : List Row} (h : Ext a b) :
    b.filter (fun r => maxId a < r.id) = b.drop a.length := by
  obtain ⟨new, rfl, l⟩ := h
  rw [List.filter_append, List.filter_eq_nil_iff.mpr (by simpa using fun r hr => le_maxId hr),
    List.filter_eq_self.mpr (by simpa using l), List.nil_append, List.drop_left]

/-- `add_many` binds an empty parent / root string without interning it, hence `q ≠ [] →` -/
theorem resolve_known {ss : List Str} (nd : ss.Nodup) {q : Str} (h : q ≠ [] → q ∈ ss) :
    (idOf ss q).bind (strOf ss) = known (decide ([] ∈ ss)) q := by
  cases hi : idOf ss q with
  | none =>
    have hq := idOf_eq_none_iff.mp hi
    obtain rfl : q = [] := Decidable.of_not_not (mt h hq)
    simp [known, hq]
  | some i =>
    have hs := (idOf_eq_some_iff nd).mp hi
    have hq : q ∈ ss := List.mem_of_getElem? hs
    by_cases e : q = [] <;> simp_all [known]

theorem urlStrings_param (e : Entry) {q : Str} (hq : q ≠ [])
    (h : e.parentParam = some q ∨ e.rootParam = some q) : q ∈ e.urlStrings := by
  unfold Entry.parentParam Entry.rootParam at h
  unfold Entry.urlStrings
  cases hp : e.props with
  | none => simp_all
  | some p => rw [hp] at h; rcases h with h | h <;> simp [h, hq, optL]

theorem insertRow_refines {ss : List Str} {rows : List Row} (h : KInv ss (rows.map Row.key))
    {e : Entry} (he : ∀ s ∈ e.urlStrings, s ∈ ss) :
    (insertRow ss rows e).map (res ss) = sInsert (decide ([] ∈ ss)) (rows.map (res ss)) e
      ∧ KInv ss ((insertRow ss rows e).map Row.key) ∧ Ext rows (insertRow ss rows e) := by
  cases hsid : idOf ss e.url with
  | none => exact absurd (he _ (List.mem_cons_self ..)) (idOf_eq_none_iff.mp hsid)
  | some sid =>
    have hany : (rows.map (res ss)).any (fun r => r.url == e.url)
        = rows.any (fun r => r.urlId == sid) :=
      any_map_congr fun r hr => Bool.eq_iff_iff.mpr <| by
        simp only [beq_iff_eq, ← h.match_url hr e.url, hsid, Option.some.injEq]
    simp only [insertRow, sInsert, hsid, hany]
    split
    · exact ⟨rfl, h, .refl _⟩
    · rename_i hc
      have hres : ∀ {p : Option Str}, (∀ q, p = some q → q ≠ [] → q ∈ ss) →
          (p.bind (idOf ss)).bind (strOf ss) = p.bind (known (decide ([] ∈ ss))) := fun hp => by
        rw [Option.bind_assoc]
        exact Option.bind_congr fun q hq => resolve_known h.nodup (hp q hq)
      have hlt : ∀ (p : Option Str) i, p.bind (idOf ss) = some i → i < ss.length := fun p i hi => by
        obtain ⟨q, -, hq⟩ := Option.bind_eq_some_iff.mp hi
        exact idOf_lt hq
      refine ⟨?_, h.snoc ⟨idOf_lt hsid, hlt _, hlt _⟩ ?_ ?_, _, rfl, by simp⟩
      · simp only [List.map_append, List.map_cons, List.map_nil, res,
          (idOf_eq_some_iff h.nodup).mp hsid, Option.getD_some,
          hres fun q hq ne => he q (urlStrings_param e ne (.inl hq)),
          hres fun q hq ne => he q (urlStrings_param e ne (.inr hq))]
      · exact fun a ha e => hc (List.any_eq_true.mpr ⟨a, ha, beq_iff_eq.mpr e⟩)
      · exact fun a ha => Nat.lt_succ_of_le (le_maxId ha)

theorem foldl_insertRow_refines {ss : List Str} (batch : List Entry)
    (hb : ∀ e ∈ batch, ∀ s ∈ e.urlStrings, s ∈ ss) (rows : List Row)
    (h : KInv ss (rows.map Row.key)) :
    (batch.foldl (insertRow ss) rows).map (res ss)
        = batch.foldl (sInsert (decide ([] ∈ ss))) (rows.map (res ss))
      ∧ KInv ss ((batch.foldl (insertRow ss) rows).map Row.key)
      ∧ Ext rows (batch.foldl (insertRow ss) rows) := by
  induction batch generalizing rows with
  | nil => exact ⟨rfl, h, .refl _⟩
  | cons e t ih =>
    obtain ⟨a1, k1, x1⟩ := insertRow_refines h (hb e (List.mem_cons_self ..))
    obtain ⟨a2, k2, x2⟩ := ih (fun x hx => hb x (List.mem_cons_of_mem _ hx)) _ k1
    exact ⟨by rw [List.foldl_cons, a2, a1, List.foldl_cons], k2, x1.trans x2⟩

theorem empty_mem_urlStrings (e : Entry) : [] ∈ e.urlStrings ↔ e.url = [] := by
  unfold Entry.urlStrings
  cases e.props <;> simp

theorem addMany_refines {t : Table} (h : Inv t) (batch : List Entry) :
    abs (addMany t batch).1 = (sAddMany (abs t) batch).1
      ∧ (addMany t batch).2 = (sAddMany (abs t) batch).2 ∧ Inv (addMany t batch).1 := by
  unfold addMany sAddMany
  split
  · exact ⟨rfl, rfl, h⟩
  split
  · exact ⟨rfl, rfl, h⟩
  -- of the new string table only this matters: it extends the old one, has no duplicates and
  -- holds the batch's strings
  have hmem := @mem_internAll t.strings (batch.flatMap Entry.urlStrings)
  have hnd := internAll_nodup (batch.flatMap Entry.urlStrings) h.nodup
  obtain ⟨m, hm⟩ := internAll_prefix t.strings (batch.flatMap Entry.urlStrings)
  dsimp only
  generalize internAll t.strings (batch.flatMap Entry.urlStrings) = ss at *
  subst hm
  have hrows : t.rows.map (res (t.strings ++ m)) = (abs t).rows :=
    List.map_congr_left fun r hr => res_append (h.ok _ (List.mem_map_of_mem hr)) m
  have hek : decide ([] ∈ t.strings ++ m)
      = ((abs t).emptyKnown || batch.any (fun e => e.url == [])) := by
    rw [Bool.eq_iff_iff]
    simp only [abs, Bool.or_eq_true, decide_eq_true_iff, hmem, List.mem_flatMap,
      empty_mem_urlStrings, List.any_eq_true, beq_iff_eq]
  obtain ⟨a1, k1, x1⟩ := foldl_insertRow_refines batch
    (fun e he s hs => hmem.mpr (.inr (List.mem_flatMap.mpr ⟨e, he, hs⟩))) t.rows
    ⟨hnd, fun k hk => (h.ok k hk).append m, h.uniq, h.ids⟩
  rw [hrows, hek] at a1
  -- "id > max(id) before" picks the appended rows, `drop` the appended records
  have hl : (abs t).rows.length = t.rows.length := List.length_map ..
  rw [x1.filter, ← a1, hl, ← List.map_drop, List.map_map,
    filterMap_eq_map (g := (·.url) ∘ res _) fun r hr => k1.res_url (List.mem_of_mem_drop hr)]
  split
  · exact ⟨rfl, rfl, h⟩
  · exact ⟨by simp only [abs, hek], rfl, k1⟩

theorem checkOut_refines {t : Table} (h : Inv t) (st : Status) (lv : Option Nat) :
    abs (checkOut t st lv).1 = (sCheckOut (abs t) st lv).1
      ∧ (checkOut t st lv).2 = (sCheckOut (abs t) st lv).2 ∧ Inv (checkOut t st lv).1 := by
  have hu := List.pairwise_map.mp h.uniq
  unfold checkOut sCheckOut
  rw [checkOutRows_eq _ hu,
    show (abs t).rows.find? _ = (t.rows.find? fun r => wanted st lv r.cols).map (res t.strings)
      from find?_map_congr fun _ _ => rfl]
  cases hf : t.rows.find? (fun r => wanted st lv r.cols) with
  | none => exact ⟨rfl, rfl, h⟩
  | some r =>
    have hr := List.mem_of_find?_eq_some hf
    refine ⟨abs_mapRows fun y hy => ?_, rfl, inv_mapRows h fun y => by split <;> rfl⟩
    have : y.urlId = r.urlId ↔ (res t.strings y).url = (res t.strings r).url := by
      rw [← h.match_url hy, ← (h.match_url hr _).mpr rfl, Option.some.injEq]
    simp only [apply_ite (res t.strings), this]
    rfl

theorem getOne_find {t : Table} (h : Inv t) (u : Str) :
    (abs t).rows.find? (fun r => r.url == u)
      = (t.rows.find? (fun r => strOf t.strings r.urlId == some u)).map (res t.strings) :=
  find?_map_congr fun r hr => by rw [KInv.res_url h hr]; simp

/-- One call from a table that meets the schema constraints: the reference makes the same step,
and the constraints still hold. -/
theorem step_refines (disk : Bool) {t : Table} (h : Inv t) (op : Op) :
    abs (step disk t op).1 = (sstep disk (abs t) op).1
      ∧ (step disk t op).2 = (sstep disk (abs t) op).2 ∧ Inv (step disk t op).1 := by
  unfold step sstep
  cases bindErr op with
  | some e => exact ⟨rfl, rfl, h⟩
  | none =>
    cases op with
    | addMany b => exact addMany_refines h b
    | checkOut st lv => exact checkOut_refines h st lv
    | checkIn u | updateOne u => exact ⟨updateWhere_abs h u _, rfl, updateWhere_inv h u _⟩
    | release => exact ⟨abs_mapRows fun _ _ => rfl, rfl, inv_mapRows h fun _ => rfl⟩
    | removeMany us =>
      obtain ⟨a, k⟩ := removeMany_refines us t.rows h
      exact ⟨by simp only [abs, a], rfl, k⟩
    | count => exact ⟨rfl, by simp [abs], h⟩
    | getOne u =>
      simp only [getOne_find h u]
      cases t.rows.find? _ <;> exact ⟨rfl, rfl, h⟩
    | contains u => exact ⟨rfl, by simp [getOne_find h u], h⟩
    | reopen =>
      cases disk with
      | true => exact ⟨rfl, rfl, h⟩
      | false => exact ⟨rfl, rfl, inv_empty⟩
    -- the other tables, and the queries that show a table as it is, are the same on both sides
    | _ => exact ⟨rfl, rfl, h⟩

theorem run_refines (disk : Bool) (ops : List Op) {t : Table} (h : Inv t) :
    abs (run disk t ops).1 = (srun disk (abs t) ops).1
      ∧ (run disk t ops).2 = (srun disk (abs t) ops).2 ∧ Inv (run disk t ops).1 := by
  induction ops generalizing t with
  | nil => exact ⟨rfl, rfl, h⟩
  | cons op rest ih =>
    obtain ⟨a, o, k⟩ := step_refines disk h op
    obtain ⟨a2, o2, k2⟩ := ih k
    simp only [run, srun, ← a, ← o]
    exact ⟨a2, by rw [o2], k2⟩

theorem run_append (disk : Bool) (a b : List Op) (t : Table) :
    run disk t (a ++ b)
      = ((run disk (run disk t a).1 b).1, (run disk t a).2 ++ (run disk (run disk t a).1 b).2) := by
  induction a generalizing t with
  | nil => simp [run]
  | cons op rest ih => simp only [List.cons_append, run, ih]

theorem abs_empty : abs Table.empty = Spec.empty := rfl

def Reachable (disk : Bool) (t : Table) : Prop := ∃ ops, t = (run disk Table.empty ops).1

theorem Reachable.inv {disk : Bool} {t : Table} (h : Reachable disk t) : Inv t := by
  obtain ⟨ops, rfl⟩ := h
  exact (run_refines disk ops inv_empty).2.2

theorem Reachable.next {disk : Bool} {t : Table} (h : Reachable disk t) (op : Op) :
    Reachable disk (step disk t op).1 := by
  obtain ⟨ops, rfl⟩ := h
  exact ⟨ops ++ [op], by rw [run_append]; rfl⟩

/-- what `get_all()` shows -/
def view (t : Table) : List Rec := t.rows.map (res t.strings)

/-- what `get_one(u)` shows -/
def lookup (recs : List Rec) (u : Str) : Option Rec := recs.find? (fun r => r.url == u)

theorem abs_rows (t : Table) : (abs t).rows = view t := rfl

theorem view_step (disk : Bool) {t : Table} (h : Inv t) (op : Op) :
    view (step disk t op).1 = (sstep disk (abs t) op).1.rows :=
  congrArg Spec.rows (step_refines disk h op).1

theorem out_step (disk : Bool) {t : Table} (h : Inv t) (op : Op) :
    (step disk t op).2 = (sstep disk (abs t) op).2 :=
  (step_refines disk h op).2.1

theorem lookup_url {recs : List Rec} {u : Str} {r : Rec} (h : lookup recs u = some r) :
    r.url = u := by
  simpa using List.find?_some h

theorem lookup_map {recs : List Rec} (g : Rec → Rec) (hg : ∀ r, (g r).url = r.url) (u : Str) :
    lookup (recs.map g) u = (lookup recs u).map g :=
  find?_map_congr fun r _ => by rw [hg]

theorem lookup_of_mem {recs : List Rec} (hd : recs.Pairwise (fun a b => a.url ≠ b.url))
    {r : Rec} (hr : r ∈ recs) : lookup recs r.url = some r := by
  induction hd with
  | nil => cases hr
  | cons h _ ih =>
    rcases List.mem_cons.mp hr with rfl | e
    · simp [lookup]
    · simpa [lookup, h r e] using ih e

theorem sInsert_prefix (ek : Bool) (recs : List Rec) (e : Entry) : recs <+: sInsert ek recs e := by
  unfold sInsert; split
  · exact List.prefix_rfl
  · exact List.prefix_append ..

theorem sAddMany_shape (s : Spec) (batch : List Entry) :
    ∃ new, (sAddMany s batch).1.rows = s.rows ++ new
      ∧ ∀ l, (sAddMany s batch).2 = .urls l → l = new.map (·.url) := by
  obtain ⟨new, e1⟩ := foldl_prefix
    (sInsert_prefix (s.emptyKnown || batch.any (fun e => e.url == []))) batch s.rows
  simp only [sAddMany, ← e1, List.drop_left]
  split
  · exact ⟨[], by simp, by simp⟩
  split
  · exact ⟨[], by simp, nofun⟩
  split
  · exact ⟨[], by simp, nofun⟩
  · exact ⟨new, rfl, by simp⟩

theorem foldl_sRemoveOne_eq_filter (us : List Str) (recs : List Rec) :
    us.foldl sRemoveOne recs = recs.filter (fun r => decide (r.url ∉ us)) := by
  induction us generalizing recs with
  | nil => exact (List.filter_eq_self.mpr (by simp)).symm
  | cons u t ih =>
    rw [List.foldl_cons, ih, sRemoveOne, List.filter_filter]
    exact List.filter_congr fun r _ => by by_cases e : r.url = u <;> simp [e]

theorem wanted_iff (st : Status) (lv : Option Nat) (c : Cols) :
    wanted st lv c = true ↔ c.status = st ∧ ∀ l, lv = some l → c.level < l := by
  unfold wanted
  cases lv <;> simp

/-! Phrases in quotation marks are the property's own. -/

/-- For every history the table and the keyed reference give the same outputs, call by call, and
`get_all()` of the table is the reference's content — in memory and on disk, reopen steps
included. -/
theorem refinement (disk : Bool) (ops : List Op) :
    (run disk Table.empty ops).2 = (srun disk Spec.empty ops).2
      ∧ abs (run disk Table.empty ops).1 = (srun disk Spec.empty ops).1 := by
  obtain ⟨a, o, _⟩ := run_refines disk ops inv_empty
  exact ⟨o, a⟩

/-- "a URL is stored once": in every reachable table no two rows carry the same URL. -/
theorem url_stored_once {disk : Bool} {t : Table} (hr : Reachable disk t) :
    (view t).Pairwise (fun a b => a.url ≠ b.url) :=
  KInv.urls_distinct hr.inv

/-- `add_many` only appends: the old rows stay as they are and in place, the appended rows carry
URLs that were not stored, and the returned list is exactly the appended URLs. -/
theorem add_extends {disk : Bool} {t : Table} (hr : Reachable disk t) (batch : List Entry) :
    ∃ new, view (step disk t (.addMany batch)).1 = view t ++ new
      ∧ (∀ x ∈ new, ∀ y ∈ view t, x.url ≠ y.url)
      ∧ ∀ l, (step disk t (.addMany batch)).2 = .urls l → l = new.map (·.url) := by
  -- that the appended URLs are new is "a URL is stored once" for the table after the call
  have hd := url_stored_once (hr.next (.addMany batch))
  rw [view_step disk hr.inv] at hd
  rw [view_step disk hr.inv, out_step disk hr.inv]
  unfold sstep at hd ⊢
  cases hb : bindErr (.addMany batch) with
  | some e => exact ⟨[], (List.append_nil _).symm, fun _ h => (nomatch h), nofun⟩
  | none =>
    rw [hb] at hd
    obtain ⟨new, e1, o1⟩ := sAddMany_shape (abs t) batch
    rw [e1] at hd
    exact ⟨new, e1, fun x hx y hy => ((List.pairwise_append.mp hd).2.2 y hy x hx).symm, o1⟩

/-- "adding it again changes neither its status, its try count nor its depth and is not reported
as new": any `add_many` leaves the whole record of a stored URL as it is and does not return the URL. -/
theorem add_existing_noop {disk : Bool} {t : Table} (hr : Reachable disk t) (batch : List Entry)
    (u : Str) (r : Rec) (hu : lookup (view t) u = some r) :
    lookup (view (step disk t (.addMany batch)).1) u = some r
      ∧ (∀ l, (step disk t (.addMany batch)).2 = .urls l → u ∉ l)
      ∧ view t <+: view (step disk t (.addMany batch)).1 := by
  obtain ⟨new, e1, d1, o1⟩ := add_extends hr batch
  rw [e1]
  refine ⟨by unfold lookup at hu ⊢; rw [List.find?_append, hu]; rfl, fun l hl hmem => ?_,
    List.prefix_append ..⟩
  rw [o1 l hl] at hmem
  obtain ⟨x, hx, ex⟩ := List.mem_map.mp hmem
  exact d1 x hx r (List.mem_of_find?_eq_some hu) (by rw [ex, lookup_url hu])

/-- every exception leaves the table unchanged (one call = one transaction) -/
theorem refused_call_changes_nothing (disk : Bool) (t : Table) (op : Op) (e : Exc)
    (h : (step disk t op).2 = .exc e) : (step disk t op).1 = t := by
  unfold step at h ⊢
  cases hb : bindErr op with
  | some e' => rfl
  | none =>
    rw [hb] at h
    cases op with
    | addMany b =>
      -- a batch is stored only at the very end, and then the call returns `.urls`
      simp only [addMany] at h ⊢
      split
      · rfl
      split
      · rfl
      split
      · rfl
      · simp_all
    | checkOut st lv =>
      simp only [checkOut] at h ⊢
      split
      · rfl
      · simp_all
    | getOne u => dsimp only; split <;> rfl
    | getRevisitId | count | getAll | contains | getHostnames => rfl
    -- the updates return nothing
    | _ => cases h

/-- "check-out returns a URL with the requested status (and depth bound) and marks it in
progress": the first stored row with that status (and level below the bound) is returned with
status in_progress; afterwards that URL's row is the returned record and every other row is
unchanged. -/
theorem checkout_marks_in_progress {disk : Bool} {t : Table} (hr : Reachable disk t)
    (st : Status) (lv : Option Nat) (t' : Table) (r : Rec)
    (h : step disk t (.checkOut st lv) = (t', .record r)) :
    ∃ r0, (view t).find? (fun x => wanted st lv x.cols) = some r0
      ∧ r0.cols.status = st ∧ (∀ l, lv = some l → r0.cols.level < l)
      ∧ r = { r0 with cols := r0.cols.setStatus .in_progress }
      ∧ r.cols.status = .in_progress
      ∧ view t' = (view t).map (fun x =>
          if x.url = r0.url then { x with cols := x.cols.setStatus .in_progress } else x)
      ∧ lookup (view t') r0.url = some r := by
  have hv := view_step disk hr.inv (.checkOut st lv)
  have ho := out_step disk hr.inv (.checkOut st lv)
  rw [h] at hv ho
  unfold sstep at hv ho
  cases hb : bindErr (.checkOut st lv) with
  | some e => rw [hb] at ho; cases ho
  | none =>
    simp only [hb, sCheckOut, abs_rows] at hv ho
    cases hf : (view t).find? (fun x => wanted st lv x.cols) with
    | none => rw [hf] at ho; cases ho
    | some r0 =>
      rw [hf] at hv ho
      injection ho with ho
      have hw := (wanted_iff st lv r0.cols).mp
        (List.find?_some (p := fun x : Rec => wanted st lv x.cols) hf)
      refine ⟨r0, rfl, hw.1, hw.2, ho, by rw [ho]; rfl, hv, ?_⟩
      rw [hv, lookup_map _ (by intro x; split <;> rfl),
        lookup_of_mem (url_stored_once hr) (List.mem_of_find?_eq_some hf), ho]
      simp

/-- "or reports not found exactly when there is none" (and then nothing changes).  `hlv`: a bound of 2^63 or more is
refused with `OverflowError` whatever is stored. -/
theorem checkout_notfound_iff {disk : Bool} {t : Table} (hr : Reachable disk t)
    (st : Status) (lv : Option Nat) (hlv : ∀ l, lv = some l → l < 2 ^ 63) :
    ((step disk t (.checkOut st lv)).2 = .exc .NotFound
        ↔ ∀ x ∈ view t, ¬ (x.cols.status = st ∧ ∀ l, lv = some l → x.cols.level < l))
      ∧ ((step disk t (.checkOut st lv)).2 = .exc .NotFound → (step disk t (.checkOut st lv)).1 = t) := by
  refine ⟨?_, refused_call_changes_nothing disk t _ _⟩
  have hb : bindErr (.checkOut st lv) = none := by
    cases lv with
    | none => rfl
    | some l => simp [bindErr, Op.strs, Op.nats, optL, tooBig, Nat.not_le.mpr (hlv l rfl)]
  have hn : (abs t).rows.find? (fun x => wanted st lv x.cols) = none
      ↔ ∀ x ∈ view t, ¬ (x.cols.status = st ∧ ∀ l, lv = some l → x.cols.level < l) := by
    simp only [List.find?_eq_none, wanted_iff]; rfl
  rw [out_step disk hr.inv, ← hn]
  simp only [sstep, hb, sCheckOut]
  split <;> simp [*]

/-- "check-in sets the given status and raises the try count by exactly one when asked": unless the call is refused
(`hb`), the record of a stored URL gets the given status, try count + 1 exactly if the flag is set, and keeps
level / URL / parent / root; every other URL's record is unchanged. -/
theorem checkin_try_count_plus_one_iff_flag {disk : Bool} {t : Table} (hr : Reachable disk t)
    (u : Str) (st : Status) (inc : Bool) (rs : Option Result)
    (hb : bindErr (.checkIn u st inc rs) = none) (r : Rec) (hu : lookup (view t) u = some r) :
    ∃ r', lookup (view (step disk t (.checkIn u st inc rs)).1) u = some r'
      ∧ r'.cols.status = st
      ∧ r'.cols.tryCount = r.cols.tryCount + (if inc then 1 else 0)
      ∧ (r'.cols.tryCount = r.cols.tryCount + 1 ↔ inc = true)
      ∧ r'.cols.level = r.cols.level ∧ r'.url = r.url ∧ r'.parent = r.parent ∧ r'.root = r.root
      ∧ ∀ v, v ≠ u → lookup (view (step disk t (.checkIn u st inc rs)).1) v = lookup (view t) v := by
  rw [view_step disk hr.inv]
  simp only [sstep, hb, sUpdateWhere, abs_rows]
  have hg : ∀ x : Rec, (if x.url = u then { x with cols := x.cols.checkIn st inc rs } else x).url
      = x.url := by intro x; split <;> rfl
  refine ⟨{ r with cols := r.cols.checkIn st inc rs }, ?_, rfl, ?_, ?_, rfl, rfl, rfl, rfl, ?_⟩
  · simp [lookup_map _ hg, hu, lookup_url hu]
  · cases inc <;> simp [Cols.checkIn]
  · simp [Cols.checkIn]
  · intro v hv
    rw [lookup_map _ hg]
    cases hl : lookup (view t) v with
    | none => rfl
    | some x => simp [lookup_url hl, hv]

/-- "release turns every in-progress URL, and nothing else, back to to-do" -/
theorem release_only_in_progress {disk : Bool} {t : Table} (hr : Reachable disk t) :
    view (step disk t .release).1 = (view t).map (fun x => { x with cols := x.cols.release })
      ∧ (∀ c : Cols, c.status = .in_progress → c.release = { c with status := .todo })
      ∧ (∀ c : Cols, c.status ≠ .in_progress → c.release = c) :=
  ⟨view_step disk hr.inv _, fun c hc => by simp [Cols.release, hc],
    fun c hc => by simp [Cols.release, hc]⟩

/-- "only removal deletes": after any call other than `remove_many` (and other than closing an
in-memory table) every stored URL is still stored, in the same position. -/
theorem only_remove_deletes {disk : Bool} {t : Table} (hr : Reachable disk t) (op : Op)
    (h1 : ∀ us, op ≠ .removeMany us) (h2 : op = .reopen → disk = true) :
    (view t).map (·.url) <+: (view (step disk t op).1).map (·.url) := by
  rw [view_step disk hr.inv]
  unfold sstep
  cases bindErr op with
  | some e => exact List.prefix_rfl
  | none =>
    have hmap : ∀ g : Rec → Rec, (∀ r, (g r).url = r.url) →
        (abs t).rows.map (·.url) <+: ((abs t).rows.map g).map (·.url) := fun g hg => by
      simp only [List.map_map, Function.comp_def, hg]
      exact List.prefix_rfl
    cases op with
    | addMany b =>
      obtain ⟨new, e1, _⟩ := sAddMany_shape (abs t) b
      rw [e1, List.map_append]
      exact List.prefix_append ..
    | checkOut st lv =>
      dsimp only [sCheckOut]
      split
      · exact List.prefix_rfl
      · exact hmap _ (by intro r; split <;> rfl)
    | checkIn | updateOne => exact hmap _ (by intro r; split <;> rfl)
    | release => exact hmap _ (fun r => rfl)
    | removeMany us => exact absurd rfl (h1 us)
    | getOne u => dsimp only; split <;> exact List.prefix_rfl
    | reopen => cases h2 rfl; exact List.prefix_rfl
    | _ => exact List.prefix_rfl

/-- `remove_many`, unless refused (`hb`), deletes exactly the rows of the given URLs -/
theorem remove_deletes_exactly {disk : Bool} {t : Table} (hr : Reachable disk t) (us : List Str)
    (hb : bindErr (.removeMany us) = none) :
    view (step disk t (.removeMany us)).1 = (view t).filter (fun r => decide (r.url ∉ us)) := by
  rw [view_step disk hr.inv]
  simp only [sstep, hb]
  exact foldl_sRemoveOne_eq_filter us _

/-- "the same holds across closing and reopening an on-disk table": close + reopen is the
identity on an on-disk table (an in-memory table starts empty again) … -/
theorem reopen_identity (t : Table) :
    step true t .reopen = (t, .none) ∧ step false t .reopen = (Table.empty, .none) :=
  ⟨rfl, rfl⟩

/-- … so a reopen step anywhere in a history of an on-disk table changes no later output and
not the final table. -/
theorem reopen_identity_history (t : Table) (ops1 ops2 : List Op) :
    (run true t (ops1 ++ .reopen :: ops2)).1 = (run true t (ops1 ++ ops2)).1
      ∧ (run true t (ops1 ++ .reopen :: ops2)).2
          = (run true t ops1).2 ++ .none :: (run true (run true t ops1).1 ops2).2
      ∧ (run true t (ops1 ++ ops2)).2
          = (run true t ops1).2 ++ (run true (run true t ops1).1 ops2).2 := by
  rw [run_append, run_append]
  exact ⟨rfl, rfl, rfl⟩

/-- a call on one of two live tables is `step` on that one and leaves the other exactly as it was (by definition of
`step2`: the model's tables are values) -/
theorem step_left_preserves_right (d1 d2 : Bool) (p : Table × Table) (op : Op) :
    (step2 d1 d2 p .left op).1.2 = p.2 ∧ (step2 d1 d2 p .right op).1.1 = p.1
      ∧ (step2 d1 d2 p .left op).1.1 = (step d1 p.1 op).1 ∧ (step2 d1 d2 p .left op).2 = (step d1 p.1 op).2
      ∧ (step2 d1 d2 p .right op).1.2 = (step d2 p.2 op).1
      ∧ (step2 d1 d2 p .right op).2 = (step d2 p.2 op).2 :=
  ⟨rfl, rfl, rfl, rfl, rfl, rfl⟩

/-- an interleaved history over two live tables is, for each table, exactly the history of its own
calls: same final table, same outputs (what the multi-table correspondence stream compares). -/
theorem interleaving_projects (d1 d2 : Bool) (h : List (Side × Op)) : ∀ p : Table × Table,
    (run2 d1 d2 p h).1.1 = (run d1 p.1 (proj .left h)).1
      ∧ (run2 d1 d2 p h).1.2 = (run d2 p.2 (proj .right h)).1
      ∧ proj .left (run2 d1 d2 p h).2 = (run d1 p.1 (proj .left h)).2
      ∧ proj .right (run2 d1 d2 p h).2 = (run d2 p.2 (proj .right h)).2 := by
  induction h with
  | nil => exact fun p => ⟨rfl, rfl, rfl, rfl⟩
  | cons x rest ih =>
    intro p
    obtain ⟨s, op⟩ := x
    -- the call goes to one table; the other side's projection skips it
    unfold proj at ih ⊢
    cases s <;> simp [run2, step2, run, ih]

/-- two live tables: the left one, on disk, keeps its row over the other's reopen; the right one, in memory, is emptied -/
example : (run2 true false (Table.empty, Table.empty)
    [(.left, .addMany [⟨[1], none, none, some (some [104])⟩]), (.right, .count),
     (.right, .addMany [⟨[2], none, none, some (some [104])⟩]), (.left, .count),
     (.right, .reopen), (.left, .count), (.right, .count)]).2.map (·.2)
    = [.urls [[1]], .nat 0, .urls [[2]], .nat 1, .none, .nat 1, .nat 0] := by decide +kernel

/-- a plain entry `AddURLInfo(u, None, None)` whose URL parses (hostname `[104]`) -/
def plain (u : Str) : Entry := ⟨u, none, none, some (some [104])⟩

/-- a history whose calls do something: the theorems are not about the empty table only -/
def exHistory : List Op :=
  [.addMany [plain [1], plain [2], plain [1]], .checkOut .todo none, .checkIn [1] .done true none,
   .addMany [plain [1], plain [3]], .checkOut .error none, .checkOut .todo (some 0), .release,
   .reopen, .removeMany [[2]], .count]

example : (run true Table.empty exHistory).2
    = [.urls [[1], [2]], .record ⟨[1], some [1], some [1], ⟨.in_progress, 0, 0, none, none, 0, none, none, none⟩⟩,
       .none, .urls [[3]], .exc .NotFound, .exc .NotFound, .none, .none, .none, .nat 2] := by decide +kernel

example : (view (run true Table.empty exHistory).1).map (fun r => (r.url, r.cols.status, r.cols.tryCount))
    = [([1], .done, 1), ([3], .todo, 0)] := by decide +kernel

example : (run false Table.empty exHistory).2.getLast? = some (.nat 0) := by decide +kernel

example : Reachable true (run true Table.empty exHistory).1 := ⟨exHistory, rfl⟩

/-- re-adding a done URL with other properties: nothing changes, not reported -/
example :
    let s := step true (run true Table.empty exHistory).1
      (.addMany [⟨[1], some ⟨some [9], some [9], some .todo, some 0, some 7, none, none, none⟩, none,
        some none⟩])
    view s.1 = view (run true Table.empty exHistory).1 ∧ s.2 = .urls [] := by decide +kernel

/-- a lone surrogate is refused and nothing is stored -/
example : step true Table.empty (.addMany [plain [1], plain [0xDC80]])
    = (Table.empty, .exc .UnicodeEncodeError) := by decide +kernel

/-- an unparseable new URL rolls the whole batch back -/
example : step true Table.empty (.addMany [plain [1], ⟨[2], none, none, none⟩])
    = (Table.empty, .exc .ValueError) := by decide +kernel

end Wpull.Table
