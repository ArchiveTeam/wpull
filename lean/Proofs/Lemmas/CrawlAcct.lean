/-
Accounting for crash-free runs: the request log is a rearrangement of the requests of the visits
handed out, less those still pending; when no visit fails no URL is handed out twice; and every step
is paid for by a hand-out or a request, which gives the length of a run.
-/
import Proofs.Lemmas.CrawlKey
namespace Wpull.Crawl

def sumOver {α : Type} (f : α → Nat) (l : List α) : Nat := (l.map f).sum

@[simp] theorem sumOver_nil {α : Type} (f : α → Nat) : sumOver f [] = 0 := rfl
@[simp] theorem sumOver_cons {α : Type} (f : α → Nat) (a : α) (l : List α) :
    sumOver f (a :: l) = f a + sumOver f l := by simp [sumOver]
@[simp] theorem sumOver_append {α : Type} (f : α → Nat) (a b : List α) :
    sumOver f (a ++ b) = sumOver f a + sumOver f b := by simp [sumOver]

theorem sumOver_le {α : Type} (f : α → Nat) (R : Nat) (l : List α) (h : ∀ x ∈ l, f x ≤ R) :
    sumOver f l ≤ R * l.length := by
  induction l with
  | nil => simp
  | cons x t ih =>
    have h1 := h x List.mem_cons_self
    have h2 := ih fun y hy => h y (List.mem_cons_of_mem _ hy)
    rw [sumOver_cons, List.length_cons, Nat.mul_succ]; omega

theorem sumOver_putItem (f : Item → Nat) {l : List Item} {old new : Item}
    (hn : (iurls l).Nodup) (ho : old ∈ l) (hu : old.row.url = new.row.url) :
    sumOver f (putItem l new) + f old = sumOver f l + f new := by
  obtain ⟨a, b, rfl, hp⟩ := putItem_eq hn ho hu
  simp only [hp, sumOver_append, sumOver_cons]; omega

theorem sumOver_dropItem (f : Item → Nat) {l : List Item} {old : Item}
    (hn : (iurls l).Nodup) (ho : old ∈ l) :
    sumOver f (dropItem l old.row.url) + f old = sumOver f l := by
  obtain ⟨a, b, rfl, hp⟩ := dropItem_eq hn ho
  simp only [hp, sumOver_append, sumOver_cons]; omega

variable {c : Cfg} {conc : Nat} {starts : List Url} {s s' : St} {e : Ev}

theorem reach_log (hw : c.WF) (h : Reach c conc starts false s) :
    (s.log ++ s.inflight.flatMap pend).Perm (s.outs.flatMap fun o => (c.visit o).requests) := by
  induction h with
  | init => exact .refl _
  | @step s s' e hr hk hs ih =>
    have hn := (reach_inv hw hr).1.itemsNodup
    cases step_tr hs with
    | checkOut =>
      rw [List.flatMap_append, List.flatMap_append, List.flatMap_singleton, List.flatMap_singleton,
        ← List.append_assoc]
      exact ih.append_right _
    | request r v rest _ hm =>
      obtain ⟨a, b, hl, hp⟩ := putItem_eq (new := ⟨r, .running rest⟩) hn hm rfl
      rw [hl] at ih
      refine .trans ?_ ih
      simp only [hp, List.flatMap_append, List.flatMap_cons, pend_running, List.append_assoc,
        List.cons_append, List.nil_append]
      exact List.perm_middle.symm.append_left _
    | flush r _ hm =>
      obtain ⟨a, b, hl, hp⟩ := putItem_eq (new := ⟨r, .flushed⟩) hn hm rfl
      rw [hl] at ih
      simpa only [hp, List.flatMap_append, List.flatMap_cons, pend_running, pend_flushed] using ih
    | checkIn r _ hm =>
      obtain ⟨a, b, hl, hp⟩ := dropItem_eq hn hm
      rw [hl] at ih
      simpa only [hp, List.flatMap_append, List.flatMap_cons, pend_flushed, List.nil_append] using ih
    | crash => exact absurd rfl (hk rfl).1
    | restart => exact absurd rfl (hk rfl).2

/-- Without it the model hands an `error` row out again (`nextRow`) without bound: wpull's `--tries` is a
URL filter (`TriesFilter`), so part of `visit`, which sees `Row.tries`. -/
def Cfg.NoFail (c : Cfg) : Prop := ∀ r, (c.visit r).status = .done ∨ (c.visit r).status = .skipped

theorem Cfg.NoFail.wf (h : c.NoFail) : c.WF := fun r => (h r).imp_right .inl

/-- the second conjunct is what the induction needs -/
theorem reach_outs_nodup (hn : c.NoFail) (h : Reach c conc starts false s) :
    (urls s.outs).Nodup ∧ ∀ o ∈ s.outs, ∀ r ∈ s.table, r.url = o.url → r.status ≠ .todo ∧ r.status ≠ .error := by
  induction h with
  | init => exact ⟨.nil, List.forall_mem_nil _⟩
  | @step s s' e hr hk hs ih =>
    cases step_tr hs with
    | checkOut r _ hrt hst =>
      have hnot : r.url ∉ urls s.outs := fun hc => by
        obtain ⟨o, ho, e⟩ := mem_urls.mp hc
        exact hst.elim (ih.2 o ho r hrt e.symm).1 (ih.2 o ho r hrt e.symm).2
      refine ⟨by rw [urls_append]; exact List.nodup_concat ih.1 hnot, fun o ho x hx hu => ?_⟩
      rcases mem_setStatus hx with ⟨hx, hne⟩ | ⟨r0, _, _, rfl⟩
      · rcases List.mem_append.mp ho with ho | ho
        · exact ih.2 o ho x hx hu
        · cases List.mem_singleton.mp ho; exact absurd hu hne
      · exact ⟨Status.noConfusion, Status.noConfusion⟩
    | request => exact ih
    | flush =>
      refine ⟨ih.1, fun o ho x hx hu => (mem_addMany hx).elim (ih.2 o ho x · hu) fun hx => ?_⟩
      exact absurd (hu ▸ ((reach_inv hn.wf hr).2.1.outsIn o ho).1) hx.2
    | checkIn r =>
      refine ⟨ih.1, fun o ho x hx hu => ?_⟩
      rcases mem_setStatus hx with ⟨hx, _⟩ | ⟨r0, _, _, rfl⟩
      · exact ih.2 o ho x hx hu
      · rcases hn r with h | h <;> rw [h] <;> exact ⟨Status.noConfusion, Status.noConfusion⟩
    | crash => exact absurd rfl (hk rfl).1
    | restart => exact absurd rfl (hk rfl).2

/-- the steps an item in flight has yet to take besides its pending requests: flush and check-in -/
def owe : Item → Nat
  | ⟨_, .running _⟩ => 2
  | ⟨_, .flushed⟩ => 1

/-- three steps per hand-out (check-out, flush, check-in), one per request -/
def paid (s : St) : Nat := 3 * s.outs.length + s.log.length

def owed (s : St) : Nat := sumOver owe s.inflight

theorem Tr.measure (ha : InvA s) (h : Tr c starts s e s') (h1 : e ≠ .crash) (h2 : e ≠ .restart) :
    paid s' + owed s = paid s + owed s' + 1 := by
  unfold paid owed
  cases h with
  | checkOut =>
    simp only [List.length_append, List.length_singleton, sumOver_append, sumOver_cons, sumOver_nil, owe]
    omega
  | request r v rest _ hm =>
    have := sumOver_putItem owe (new := ⟨r, .running rest⟩) ha.itemsNodup hm rfl
    simp only [List.length_append, List.length_singleton, owe] at this ⊢
    omega
  | flush r _ hm =>
    have := sumOver_putItem owe (new := ⟨r, .flushed⟩) ha.itemsNodup hm rfl
    simp only [owe] at this ⊢
    omega
  | checkIn r _ hm =>
    have := sumOver_dropItem owe ha.itemsNodup hm
    simp only [owe] at this ⊢
    omega
  | crash => exact absurd rfl h1
  | restart => exact absurd rfl h2

theorem run_crashfree (hw : c.WF) (es : List Ev) (hes : ∀ e ∈ es, e ≠ .crash ∧ e ≠ .restart) :
    ∀ {s s' : St}, Reach c conc starts false s → run c conc starts s es = some s' →
      Reach c conc starts false s' ∧ es.length + paid s + owed s' = paid s' + owed s := by
  induction es with
  | nil => intro s s' h hr; cases hr; exact ⟨h, by rw [List.length_nil, Nat.zero_add]⟩
  | cons e es ih =>
    intro s s' h hr
    rw [run] at hr
    split at hr
    · cases hr
    · rename_i s1 hs1
      have he := hes e List.mem_cons_self
      have h1 := (step_tr hs1).measure (reach_inv hw h).1 he.1 he.2
      have ⟨hr', h2⟩ := ih (fun e' he' => hes e' (List.mem_cons_of_mem _ he')) (.step h (fun _ => he) hs1) hr
      exact ⟨hr', by rw [List.length_cons]; omega⟩

end Wpull.Crawl
