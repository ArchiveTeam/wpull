/-
What the functions of `Wpull/Url.lean` return, stated once per function for C10 and C11 alike: the codec hypotheses
`SegSafe` / `SpaceSafe`; the component normalisers as one function `normWith`; for each parsing stage the sub-results
a success was built from (`…_inv`, an `iff` where a proof builds a success), put together in `parse_cases`
(`NetParts`); the text of `.url` and `hostname_with_port` as a function of the attributes.
-/
import Wpull.Url
import Proofs.Lemmas.Port
namespace Wpull.Url

/-- a codec that encodes character by character, maps ASCII to itself and every other character to a non-empty byte
string free of '.' and '/': encoding then commutes with cutting the path at `/` and with the test for `.` / `..`
segments.  Not of this kind: UTF-16 / UTF-32 (several bytes per ASCII character, `.` `/` bytes inside others), the
ISO-2022 codecs (not character-wise). -/
def SegSafe (enc : Str → Except PyExc Bytes) : Prop :=
  ∃ f : Nat → Except PyExc Bytes, enc = encodeBy f ∧ (∀ c, c < 128 → f c = .ok [c]) ∧
    (∀ c bs, 128 ≤ c → f c = .ok bs → bs ≠ [] ∧ ∀ b ∈ bs, b < 256 ∧ b ≠ 46 ∧ b ≠ 47)

theorem utf8Enc1_cases (c : Nat) :
    (c < 128 ∧ utf8Enc1 c = .ok [c]) ∨
    (128 ≤ c ∧ ((∃ a, utf8Enc1 c = .ok a ∧ a ≠ [] ∧ ∀ b ∈ a, 128 ≤ b ∧ b < 256) ∨
      utf8Enc1 c = .error .UnicodeEncodeError)) := by
  unfold utf8Enc1
  -- `by_cases` and `if_pos` / `if_neg`: `split` on this chain of five is several times dearer
  by_cases h1 : c < 0x80
  · exact .inl ⟨h1, if_pos h1⟩
  refine .inr ⟨by omega, ?_⟩
  rw [if_neg h1]
  by_cases h2 : c < 0x800
  · exact .inl ⟨_, if_pos h2, by simp, by simp; omega⟩
  rw [if_neg h2]
  by_cases h3 : 0xD800 ≤ c ∧ c ≤ 0xDFFF
  · exact .inr (if_pos h3)
  rw [if_neg h3]
  by_cases h4 : c < 0x10000
  · exact .inl ⟨_, if_pos h4, by simp, by simp; omega⟩
  · exact .inl ⟨_, if_neg h4, by simp, by simp; omega⟩

theorem utf8Enc1_bytes {c : Nat} {a : Bytes} (h : utf8Enc1 c = .ok a) :
    (c < 128 ∧ a = [c]) ∨ (128 ≤ c ∧ a ≠ [] ∧ ∀ b ∈ a, 128 ≤ b ∧ b < 256) := by
  rcases utf8Enc1_cases c with ⟨h1, e⟩ | ⟨h1, ⟨a', e, h2⟩ | e⟩ <;> rw [e] at h <;> cases h
  · exact .inl ⟨h1, rfl⟩
  · exact .inr ⟨h1, h2⟩

theorem utf8Enc_segSafe : SegSafe utf8Enc := by
  refine ⟨utf8Enc1, rfl, fun c hc => ?_, fun c bs hc h => ?_⟩
  · exact (utf8Enc1_cases c).elim And.right fun h => absurd hc (by omega)
  · rcases utf8Enc1_bytes h with ⟨h1, _⟩ | ⟨_, hne, hb⟩
    · omega
    · exact ⟨hne, fun b hb' => by have := hb b hb'; omega⟩

theorem rangeEnc_segSafe {N : Nat} (hlo : 128 ≤ N) (hhi : N ≤ 256) :
    SegSafe (encodeBy fun c => if c < N then .ok [c] else .error .UnicodeEncodeError) := by
  refine ⟨_, rfl, fun c hc => if_pos (by omega), fun c bs hc h => ?_⟩
  split at h
  · cases h; simp; omega
  · cases h

theorem latin1Enc_segSafe : SegSafe latin1Enc := rangeEnc_segSafe (by decide) (by decide)
theorem asciiEnc_segSafe : SegSafe asciiEnc := rangeEnc_segSafe (by decide) (by decide)

/-- the codec produces the byte 0x20 only for the space character -/
def SpaceSafe (enc : Str → Except PyExc Bytes) : Prop :=
  ∀ t bs, enc t = .ok bs → 32 ∈ bs → 32 ∈ t

theorem utf8Enc_spaceSafe : SpaceSafe utf8Enc := by
  intro t bs h hm
  obtain ⟨c, hc, a, ha, h32⟩ := encodeBy_mem h hm
  rcases utf8Enc1_bytes ha with ⟨_, rfl⟩ | ⟨_, _, hb⟩
  · rwa [← List.mem_singleton.1 h32] at hc
  · have := hb 32 h32; omega

theorem segSafe_bytes {enc : Str → Except PyExc Bytes} (h : SegSafe enc) {s : Str} {bs : Bytes}
    (he : enc s = .ok bs) : ∀ b ∈ bs, b < 256 := by
  obtain ⟨f, rfl, h1, h2⟩ := h
  intro b hb
  obtain ⟨c, _, a, ha, hba⟩ := encodeBy_mem he hb
  by_cases hc : c < 128
  · rw [h1 c hc] at ha
    cases ha
    cases List.mem_singleton.1 hba
    omega
  · exact ((h2 c a (by omega) ha).2 b hba).1

theorem segSafe_ascii {enc : Str → Except PyExc Bytes} (h : SegSafe enc) {s : Str}
    (ha : ∀ c ∈ s, c < 128) : enc s = .ok s := by
  obtain ⟨f, rfl, h1, _⟩ := h
  induction s with
  | nil => rfl
  | cons c t ih =>
    obtain ⟨hc, ht⟩ := List.forall_mem_cons.1 ha
    simp [encodeBy, h1 c hc, ih ht]

/-- `percent_encode`, then `uppercase_percent_encoding`: what `normalize_path` (after flattening), `normalize_fragment`,
`normalize_username`, `normalize_password` are -/
def normWith (enc : Str → Except PyExc Bytes) (set : List Nat) (t : Str) : Except PyExc Str :=
  match percentEncode enc set t with
  | .error e => .error e
  | .ok r => .ok (upperPct r)

theorem normalizePath_eq (c : Cfg) (p : Str) : normalizePath c p =
    normWith c.encode defaultSet (flattenPath true (if startsWith p [47] then p else 47 :: p)) := rfl

theorem normWith_ok_iff {enc : Str → Except PyExc Bytes} {set : List Nat} {t r : Str} :
    normWith enc set t = .ok r ↔ ∃ bs, enc t = .ok bs ∧ upperPct (pctBytes set bs) = r := by
  unfold normWith percentEncode
  cases enc t <;> simp

theorem normalizeQuery_ok_iff {c : Cfg} {t r : Str} :
    normalizeQuery c t = .ok r ↔ ∃ bs, c.encode t = .ok bs ∧
      upperPct (if t.contains 32 then replace1 32 43 (pctBytes querySet bs) else pctBytes querySet bs) = r := by
  unfold normalizeQuery percentEncodePlus percentEncode
  cases c.encode t <;> simp

theorem netScheme_inv {s : Option Str} {sch : Str} {dp : Nat} (h : netScheme? s = some (sch, dp)) :
    s = some sch ∧ defaultPort? sch = some dp := by
  unfold netScheme? at h
  split at h
  · cases h
  · split at h
    · cases h
    · rename_i x d hd; cases h; exact ⟨rfl, hd⟩

theorem netScheme_of {sch : Str} {dp : Nat} (h : defaultPort? sch = some dp) :
    netScheme? (some sch) = some (sch, dp) := by
  simp [netScheme?, h]

/-- what a proof needs of a network scheme and its port it evaluates on the six entries of
`RELATIVE_SCHEME_DEFAULT_PORTS` -/
theorem mem_schemePorts {sch : Str} {dp : Nat} (h : defaultPort? sch = some dp) : (sch, dp) ∈ schemePorts := by
  obtain ⟨l₁, l₂, e, _⟩ := List.lookup_eq_some_iff.1 h
  rw [e]
  exact List.mem_append_right _ List.mem_cons_self

theorem schemeSplit_net (c : Cfg) {sch : Str} (rest : Str) {dp : Nat} (hdp : defaultPort? sch = some dp) :
    schemeSplit c (sch ++ 58 :: rest) = .ok (some sch, rest) := by
  obtain ⟨hemp, hs58, hs46, hsloc, hsasc, hslow⟩ :=
    (by decide : ∀ p ∈ schemePorts, p.1.isEmpty = false ∧ 58 ∉ p.1 ∧ p.1.contains 46 = false ∧
      (some p.1 == some sLocalhost) = false ∧ isAscii p.1 = true ∧ p.1.map asciiLower = p.1) _ (mem_schemePorts hdp)
  unfold schemeSplit
  simp only [partition1_append rest hs58, hemp, pyLower, hsasc, if_true, hslow, Bool.false_eq_true, if_false,
    Bool.not_true, Bool.false_and, Option.getD_some, hs46, Bool.and_false, hsloc, Bool.or_self]

theorem tryIpv4_inv {h r : Str} (hh : tryIpv4 h = .ok r) : normalizeIpv4 h = .ok r ∨ r = h := by
  unfold tryIpv4 at hh
  split at hh
  · rename_i x hx; cases hh; exact .inl hx
  · split at hh
    · cases hh; exact .inr rfl
    · cases hh

theorem idnaEncode_inv {c : Cfg} {h : Str} {b : Bytes} (hh : idnaEncode c h = .ok b) :
    (isAscii h = true ∧ b = h) ∨ (isAscii h = false ∧ c.idnaNA h = .ok b) := by
  unfold idnaEncode at hh
  split at hh
  · rename_i he
    cases hh
    exact .inl (by rw [List.isEmpty_iff.1 he]; exact ⟨rfl, rfl⟩)
  · split at hh
    · rename_i ha
      split at hh
      · cases hh; exact .inl ⟨ha, rfl⟩
      · cases hh
    · exact .inr ⟨Bool.eq_false_iff.2 ‹_›, hh⟩

theorem normalizeHostname_inv {c : Cfg} {h n : Str} (hh : normalizeHostname c h = .ok n) :
    ∃ b, idnaEncode c h = .ok b ∧ isAscii b = true ∧ n = b.map asciiLower ∧ ∃ b', idnaEncode c n = .ok b' := by
  unfold normalizeHostname at hh
  split at hh
  · split at hh <;> cases hh
  rename_i b hb
  split at hh
  · cases hh
  rename_i hasc
  simp only at hh
  split at hh
  · split at hh
    · cases hh
    · cases hh; exact ⟨b, hb, by simpa using hasc, rfl, _, ‹_›⟩
  · rename_i heq
    cases hh
    exact ⟨b, hb, by simpa using hasc, rfl, b, (show h = b.map asciiLower by simpa using heq) ▸ hb⟩

theorem parseHostname_plain {c : Cfg} {h hn : Str} (hb : startsWith h [91] = false) :
    parseHostname c h = .ok hn ↔ ∃ h1 h2, tryIpv4 h = .ok h1 ∧ normalizeHostname c h1 = .ok h2 ∧
      tryIpv4 h2 = .ok hn ∧ hn.any forbiddenHost.contains = false := by
  unfold parseHostname
  simp only [hb, Bool.false_eq_true, if_false]
  constructor
  · intro hh
    split at hh
    · cases hh
    split at hh
    · cases hh
    split at hh
    · cases hh
    split at hh
    · cases hh
    cases hh
    exact ⟨_, _, ‹_›, ‹_›, ‹_›, Bool.eq_false_iff.2 ‹_›⟩
  · rintro ⟨h1, h2, e1, e2, e3, hf⟩
    simp only [e1, e2, e3, hf, Bool.false_eq_true, if_false]

theorem parseHostname_forbidden {c : Cfg} {h hn : Str} (hb : startsWith h [91] = false)
    (hh : parseHostname c h = .ok hn) : hn.any forbiddenHost.contains = false := by
  obtain ⟨_, _, _, _, _, hf⟩ := (parseHostname_plain hb).1 hh
  exact hf

/-- the side condition is evaluated on `FORBIDDEN_HOSTNAME_CHARS` where the lemma is used -/
theorem forbidden_not_mem {hn : Str} (h : hn.any forbiddenHost.contains = false) (d : Nat)
    (hd : forbiddenHost.contains d = true := by decide) : d ∉ hn :=
  fun hm => List.any_eq_false.1 h d hm hd

theorem parseHostname_v6 {c : Cfg} {h hn : Str} (hb : startsWith h [91] = true) :
    parseHostname c h = .ok hn ↔ endsWith h [93] = true ∧ h.contains 37 = false ∧
      c.ipv6 (pySlice h 1 (h.length - 1)) = .ok hn := by
  unfold parseHostname parseIpv6Hostname
  simp only [hb, if_true]
  cases endsWith h [93] <;> cases h.contains 37 <;> simp

theorem parseHost_noport {c : Cfg} {H hn : Str} (hH : parseHostname c H = .ok hn)
    (h : endsWith H [93] = true ∨ 58 ∉ H) : parseHost c H = .ok (hn, none) := by
  unfold parseHost
  rcases h with h | h
  · simp only [h, if_true, hH]
  · cases endsWith H [93] <;> simp [hH, rpartition1_none h]

theorem parseHost_port {c : Cfg} {H hn : Str} (hH : parseHostname c H = .ok hn) {p : Nat} (hp : p < 65536) :
    parseHost c (H ++ 58 :: natDec p) = .ok (hn, some p) := by
  have hno : 58 ∉ natDec p := not_mem_natDec (.inr (by decide)) p
  have he := endsWith_natDec (H ++ [58]) p (c := 93) (.inr (by decide))
  rw [List.append_assoc, List.singleton_append] at he
  have h2 : ¬ ((p : Int) > 65535) := by omega
  have hint := pyInt_natDec p (Nat.le_trans (natDec_length p 4 (by omega)) (by decide))
  simp [parseHost, he, rpartition1_append H hno, hint, h2, hH]

theorem parseHost_inv {c : Cfg} {host hn : Str} {port0 : Option Nat}
    (h : parseHost c host = .ok (hn, port0)) :
    ∃ arg, parseHostname c arg = .ok hn ∧
      ((host = arg ∧ port0 = none) ∨ ∃ t p, host = arg ++ 58 :: t ∧ port0 = some p ∧ p < 65536) := by
  unfold parseHost at h
  split at h
  · split at h
    · cases h
    · rename_i x hx; cases h
      exact ⟨host, hx, .inl ⟨rfl, rfl⟩⟩
  · rcases rpartition1_cases 58 host with e | ⟨a, b, rfl, e⟩ <;> simp only [e, if_true, Bool.false_eq_true, if_false] at h
    · split at h
      · cases h
      · rename_i x hx; cases h
        exact ⟨host, hx, .inl ⟨rfl, rfl⟩⟩
    · split at h
      · cases h
      split at h
      · cases h
      rename_i hrange
      split at h
      · cases h
      rename_i x hx; cases h
      simp only [Bool.or_eq_true, decide_eq_true_eq, not_or] at hrange
      exact ⟨a, hx, .inr ⟨b, _, rfl, rfl, by omega⟩⟩

theorem parseAuthority_sub {a : Str} {x : Nat} (h : x ∈ (parseAuthority a).2) : x ∈ a := by
  unfold parseAuthority at h
  rcases partition1_cases 64 a with e | ⟨u, r, rfl, e⟩ <;> simp only [e, if_true, Bool.false_eq_true, if_false] at h
  · exact h
  · simp [h]

/-- `port or RELATIVE_SCHEME_DEFAULT_PORTS[scheme]` -/
def effPort (dp : Nat) : Option Nat → Nat
  | some p => if p == 0 then dp else p
  | none => dp

/-- the record `parseNet` returns, as a function of what its stages returned -/
def netInfo (c : Cfg) (url scheme : Str) (dp : Nat) (rp : RemParts) (hn : Str) (port0 : Option Nat)
    (np nq nf : Str) : URLInfo :=
  { raw := url, scheme := some scheme, authority := some rp.authority,
    path := some np, query := some nq, fragment := some nf,
    userinfo := some (parseAuthority rp.authority).1,
    username := some (percentDecode c (parseUserinfo (parseAuthority rp.authority).1).1),
    password := some (percentDecode c (parseUserinfo (parseAuthority rp.authority).1).2),
    host := some (parseAuthority rp.authority).2, hostname := some hn,
    port := some (effPort dp port0), resource := some rp.resource }

/-- `rem`, `rp` by equation: `parse_cases` puts in `rfl`, `parse_assembled` what `splitRem_assembled` computed -/
theorem parseNet_ok_iff {c : Cfg} {url scheme rem0 rem : Str} {dp : Nat} {i : URLInfo} {rp : RemParts}
    (hrem : (if startsWith rem0 [47, 47] then rem0.drop 2 else rem0) = rem) (hrp : splitRem rem = rp) :
    parseNet c url scheme rem0 dp = .ok i ↔
    ∃ (hn : Str) (port0 : Option Nat) (np nq nf a b : Str),
      parseHost c (parseAuthority rp.authority).2 = .ok (hn, port0) ∧ hn ≠ [] ∧
      normalizePath c rp.path = .ok np ∧ normalizeQuery c rp.query = .ok nq ∧
      normalizeFragment c rp.fragment = .ok nf ∧
      normalizeUsername (percentDecode c (parseUserinfo (parseAuthority rp.authority).1).1) = .ok a ∧
      normalizePassword (percentDecode c (parseUserinfo (parseAuthority rp.authority).1).2) = .ok b ∧
      i = netInfo c url scheme dp rp hn port0 np nq nf := by
  subst hrem hrp
  unfold parseNet
  simp only
  constructor
  · intro h
    split at h
    · cases h
    rename_i hostname port hph
    split at h
    · cases h
    rename_i hne
    split at h
    · cases h
    rename_i np hnp
    split at h
    · cases h
    rename_i nq hnq
    split at h
    · cases h
    rename_i nf hnf
    split at h
    · cases h
    rename_i a ha
    split at h
    · cases h
    rename_i b hb
    cases h
    exact ⟨hostname, port, np, nq, nf, a, b, hph, by simpa using hne, hnp, hnq, hnf, ha, hb, by
      cases port <;> rfl⟩
  · rintro ⟨hn, port0, np, nq, nf, a, b, hhost, hne, hpath, hquery, hfrag, hun, hpw, rfl⟩
    have hne' : hn.isEmpty = false := by simpa using hne
    cases port0 <;>
      simp only [hhost, hne', hpath, hquery, hfrag, hun, hpw, Bool.false_eq_true, if_false, effPort, netInfo]

theorem isPySpace_false {x : Nat} (h1 : 0x20 < x) (h2 : x < 0x80) : isPySpace x = false := by
  unfold isPySpace
  simp only [Bool.or_eq_false_iff, Bool.and_eq_false_iff, decide_eq_false_iff_not, beq_eq_false_iff_ne]
  omega

theorem parse_eq_parseNet (c : Cfg) {sch : Str} (rest : Str) {dp : Nat} (hdp : defaultPort? sch = some dp)
    (hchars : ∀ x ∈ sch ++ 58 :: rest, 0x20 < x ∧ x < 0x80) :
    parse c (sch ++ 58 :: rest) = parseNet c (sch ++ 58 :: rest) sch rest dp := by
  have hstrip := strip_id (fun x hx => isPySpace_false (hchars x hx).1 (hchars x hx).2)
  have hc0 : ((sch ++ 58 :: rest).any (· ≤ 0x1f)) = false := by
    rw [List.any_eq_false]
    intro x hx
    have := (hchars x hx).1
    simp only [decide_eq_true_eq]
    omega
  unfold parse
  simp only [hstrip, hc0, Bool.false_eq_true, if_false, schemeSplit_net c rest hdp, netScheme_of hdp]

theorem parse_inv {c : Cfg} {s : Str} {i : URLInfo} (h : parse c s = .ok i) :
    (∀ x ∈ strip s, 0x1f < x) ∧ ∃ sc rem, schemeSplit c (strip s) = .ok (sc, rem) ∧
      ((netScheme? sc = none ∧ i = { raw := strip s, scheme := sc, path := some rem }) ∨
        ∃ sch dp, netScheme? sc = some (sch, dp) ∧ parseNet c (strip s) sch rem dp = .ok i) := by
  unfold parse at h
  simp only at h
  split at h
  · cases h
  rename_i hc0
  refine ⟨fun x hx => Nat.lt_of_not_le fun hle => hc0 (List.any_eq_true.2 ⟨x, hx, by simpa using hle⟩), ?_⟩
  split at h
  · cases h
  rename_i s2 hs2
  refine ⟨s2.1, s2.2, hs2, ?_⟩
  split at h
  · split at h
    · cases h
    cases h
    exact .inl ⟨‹_›, rfl⟩
  · exact .inr ⟨_, _, ‹_›, h⟩

/-- the parts of a result `i` of `parse c s` with a network scheme: what `parse` cut out of `s`, what the component
functions made of it, and the attributes of `i` this became.  `arg` is the argument of `parse_hostname`: the host
text, without the port if there is one. -/
structure NetParts (c : Cfg) (s : Str) (i : URLInfo) where
  (sc : Option Str) (rem sch : Str) (dp : Nat) (host arg hn un pw a b p1 q1 path query : Str) (port : Nat)
  noCtl : ∀ x ∈ strip s, 0x1f < x
  split_ok : schemeSplit c (strip s) = .ok (sc, rem)
  dp_eq : defaultPort? sch = some dp
  scheme_eq : i.scheme = some sch
  username_eq : i.username = some un
  password_eq : i.password = some pw
  host_eq : i.host = some host
  hostname_eq : i.hostname = some hn
  port_eq : i.port = some port
  path_eq : i.path = some path
  query_eq : i.query = some query
  arg_sub : ∀ x ∈ arg, x ∈ rem
  v6 : startsWith host [91] = startsWith arg [91]
  hostname_ok : parseHostname c arg = .ok hn
  hn_ne : hn ≠ []
  port_ne : port ≠ 0
  port_lt : port < 65536
  path_ok : normalizePath c p1 = .ok path
  query_ok : normalizeQuery c q1 = .ok query
  user_ok : normalizeUsername un = .ok a
  pass_ok : normalizePassword pw = .ok b

theorem parse_cases {c : Cfg} {s : Str} {i : URLInfo} (h : parse c s = .ok i) :
    (∃ sc rem, netScheme? sc = none ∧ i = { raw := strip s, scheme := sc, path := some rem }) ∨
      Nonempty (NetParts c s i) := by
  obtain ⟨hctl, sc, rem, hsplit, ⟨hb, rfl⟩ | ⟨sch, dp, hsc, h⟩⟩ := parse_inv h
  · exact .inl ⟨sc, rem, hb, rfl⟩
  obtain ⟨rp, hrp⟩ : ∃ rp, splitRem (if startsWith rem [47, 47] then rem.drop 2 else rem) = rp := ⟨_, rfl⟩
  obtain ⟨hn, port0, np, nq, nf, a, b, hph, hne, hnp, hnq, -, ha, hb, rfl⟩ := (parseNet_ok_iff rfl hrp).1 h
  have hdp := (netScheme_inv hsc).2
  obtain ⟨hdp0, hdplt⟩ := (by decide : ∀ p ∈ schemePorts, 0 < p.2 ∧ p.2 < 65536) _ (mem_schemePorts hdp)
  obtain ⟨arg, harg, hshape⟩ := parseHost_inv hph
  -- the host text is part of the authority, that of the text after the scheme
  have hsub : ∀ x ∈ (parseAuthority rp.authority).2, x ∈ rem := by
    intro x hx
    subst hrp
    have h2 := List.mem_of_mem_take (show x ∈ List.take _ _ from parseAuthority_sub hx)
    split at h2
    · exact List.mem_of_mem_drop h2
    · exact h2
  have hr : effPort dp port0 ≠ 0 ∧ effPort dp port0 < 65536 := by
    rcases hshape with ⟨_, rfl⟩ | ⟨t, p, _, rfl, hp⟩
    · simp only [effPort]; omega
    · by_cases e : p = 0 <;> simp only [effPort, e, beq_iff_eq, if_true, if_false] <;> omega
  refine .inr ⟨{
    sc, rem, sch, dp, arg, hn, a, b, host := _, un := _, pw := _, p1 := rp.path, q1 := rp.query, path := np,
    query := nq, port := effPort dp port0,
    noCtl := hctl, split_ok := hsplit, dp_eq := hdp, scheme_eq := rfl, username_eq := rfl, password_eq := rfl,
    host_eq := rfl, hostname_eq := rfl, port_eq := rfl, path_eq := rfl, query_eq := rfl, hostname_ok := harg,
    hn_ne := hne, port_ne := hr.1, port_lt := hr.2, path_ok := hnp, query_ok := hnq, user_ok := ha, pass_ok := hb,
    arg_sub := ?_, v6 := ?_ }⟩
  · rcases hshape with ⟨e, _⟩ | ⟨t, p, e, _⟩ <;> exact fun x hx => hsub x (by simp [e, hx])
  · rcases hshape with ⟨e, _⟩ | ⟨t, p, e, _⟩ <;> rw [e]
    cases arg <;> simp [startsWith]

theorem netParts_of_parse {c : Cfg} {s : Str} {i : URLInfo} (h : parse c s = .ok i)
    (hnet : (netScheme? i.scheme).isSome = true) : Nonempty (NetParts c s i) := by
  rcases parse_cases h with ⟨sc, rem, hb, rfl⟩ | hP
  · rw [hb] at hnet; cases hnet
  · exact hP

theorem normalizeUsername_nil : normalizeUsername [] = .ok [] := by decide
theorem normalizePassword_nil : normalizePassword [] = .ok [] := by decide

/-- the `url` property skips the normaliser for an empty user name or password; it would return the same -/
theorem skip_empty {f : Str → Except PyExc Str} (h0 : f [] = .ok []) (t : Str) :
    (if t.isEmpty then .ok [] else f t) = f t := by
  split
  · rename_i he
    rw [List.isEmpty_iff.1 he, h0]
  · rfl

/-- the user-info part of the `url` property: `a[:b]@`, nothing when both are empty -/
def uiText (un pw a b : Str) : Str :=
  a ++ (if pw.isEmpty then [] else 58 :: b) ++ (if un.isEmpty && pw.isEmpty then [] else [64])

def portText (dp port : Nat) : Str := if port = dp then [] else 58 :: natDec port

theorem isIPv6_eq {i : URLInfo} {host : Str} (hh : i.host = some host) :
    (i.isIPv6 == some true) = startsWith host [91] := by
  unfold URLInfo.isIPv6
  rw [hh]
  cases host with
  | nil => simp [startsWith]
  | cons x t => simp

theorem url_shape {i : URLInfo} {sch un pw host hn path query a b : Str} {dp port : Nat}
    (hs : i.scheme = some sch) (hdp : defaultPort? sch = some dp)
    (hun : i.username = some un) (hpw : i.password = some pw) (hh : i.host = some host)
    (hhn : i.hostname = some hn) (hport : i.port = some port) (hpath : i.path = some path)
    (hq : i.query = some query)
    (ha : normalizeUsername un = .ok a) (hb : normalizePassword pw = .ok b) :
    i.url = .ok (sch ++ 58 :: 47 :: 47 :: (uiText un pw a b ++
      ((if startsWith host [91] then [91] ++ hn ++ [93] else hn) ++ portText dp port) ++
      (path ++ if query.isEmpty then [] else 63 :: query))) := by
  have hv6 := isIPv6_eq hh
  unfold URLInfo.url
  rw [hs, netScheme_of hdp]
  simp only [hun, hpw, hhn, hport, hpath, hq, Option.getD_some, hv6]
  rw [skip_empty normalizeUsername_nil, ha, skip_empty normalizePassword_nil, hb]
  by_cases e : port = dp
  · simp [e, uiText, portText]
  · simp [e, Ne.symm e, uiText, portText]

theorem NetParts.url_eq {c : Cfg} {s : Str} {i : URLInfo} (P : NetParts c s i) :
    i.url = .ok (P.sch ++ 58 :: 47 :: 47 :: (uiText P.un P.pw P.a P.b ++
      ((if startsWith P.arg [91] then [91] ++ P.hn ++ [93] else P.hn) ++ portText P.dp P.port) ++
      (P.path ++ if P.query.isEmpty then [] else 63 :: P.query))) :=
  P.v6 ▸ url_shape P.scheme_eq P.dp_eq P.username_eq P.password_eq P.host_eq P.hostname_eq P.port_eq P.path_eq
    P.query_eq P.user_ok P.pass_ok

/-- `hnb` is what the two `assert`s of `hostname_with_port` test -/
theorem NetParts.hostnameWithPort_eq {c : Cfg} {s : Str} {i : URLInfo} (P : NetParts c s i)
    (hnb : P.hn.contains 91 = false ∧ P.hn.contains 93 = false) :
    i.hostnameWithPort =
      .ok ((if startsWith P.arg [91] then [91] ++ P.hn ++ [93] else P.hn) ++ portText P.dp P.port) := by
  unfold URLInfo.hostnameWithPort
  rw [P.scheme_eq, netScheme_of P.dp_eq]
  simp only [P.hostname_eq, Option.getD_some, hnb.1, hnb.2, Bool.or_self, Bool.false_eq_true, if_false, P.port_eq,
    isIPv6_eq P.host_eq, P.v6, portText]
  by_cases e : P.port = P.dp
  · simp [e]
  · simp [e, Ne.symm e]

end Wpull.Url
