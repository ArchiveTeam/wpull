/-
The index arithmetic of `splitRem` (`URLInfo.parse` cutting authority, path, query and fragment out of a text) on
`authority + '/' + path-tail [+ '?' + query]`.
-/
import Wpull.Url
import Proofs.Lemmas.Py
namespace Wpull.Url

theorem splitC_ne_nil (c : Nat) (s : Str) : splitC c s ≠ [] := Wpull.splitC_ne_nil c s

theorem splitRem_assembled (A P Q : Str) (hA : 47 ∉ A ∧ 63 ∉ A ∧ 35 ∉ A) (hP : 63 ∉ P ∧ 35 ∉ P)
    (hQ : 35 ∉ Q) :
    splitRem (A ++ 47 :: (P ++ if Q.isEmpty then [] else 63 :: Q)) =
      { authority := A, resource := 47 :: (P ++ if Q.isEmpty then [] else 63 :: Q),
        path := if P.isEmpty then [47] else P, query := Q, fragment := [] } := by
  -- with or without a query the path ends at position `|A ++ '/' ++ P|`: at the `?`, or at the end of the text
  have e : ∀ qs, A ++ 47 :: (P ++ qs) = (A ++ 47 :: P) ++ qs := by simp
  have hpath : ∀ qs, ((A ++ 47 :: (P ++ qs)).take (A ++ 47 :: P).length).drop (A.length + 1) = P := by
    intro qs
    rw [e, List.take_left, List.drop_length_add_append]
    rfl
  have h47 : ∀ qs, findChar 47 (A ++ 47 :: (P ++ qs)) = some A.length := fun _ => findChar_append _ hA.1
  have hle : min A.length (A ++ 47 :: P).length = A.length := by simp
  have hq : ∀ Q, ((A ++ 47 :: (P ++ 63 :: Q)).take (A ++ 47 :: (P ++ 63 :: Q)).length).drop
      ((A ++ 47 :: P).length + 1) = Q := by
    intro Q
    rw [List.take_length, e, List.drop_length_add_append]
    rfl
  unfold splitRem
  cases Q with
  | nil =>
    have h63 : findChar 63 (A ++ 47 :: P) = none := findChar_none (by simp [hA.2.1, hP.1])
    have h35 : findChar 35 (A ++ 47 :: P) = none := findChar_none (by simp [hA.2.2, hP.2])
    have hp := hpath []
    have h47' := h47 []
    simp only [List.append_nil] at hp h47'
    simp only [List.isEmpty_nil, if_true, List.append_nil, h47', h63, h35, minIdx, List.filterMap, id,
      List.foldl, pySlice, hp, Option.getD_none]
    rw [List.take_left, List.drop_left, List.drop_eq_nil_of_le (Nat.le_succ _),
      List.drop_eq_nil_of_le (by simp)]
  | cons q Q =>
    have h63 : findChar 63 (A ++ 47 :: (P ++ 63 :: q :: Q)) = some (A ++ 47 :: P).length :=
      e _ ▸ findChar_append _ (by simp [hA.2.1, hP.1])
    have h35 : findChar 35 (A ++ 47 :: (P ++ 63 :: q :: Q)) = none :=
      findChar_none (by simpa [hA.2.2, hP.2] using hQ)
    simp only [List.isEmpty_cons, Bool.false_eq_true, if_false, h47, h63, h35, minIdx, List.filterMap, id,
      List.foldl, hle, pySlice, hpath, hq, Option.getD_none]
    rw [List.take_left, List.drop_left, List.drop_eq_nil_of_le (Nat.le_succ _)]

end Wpull.Url
