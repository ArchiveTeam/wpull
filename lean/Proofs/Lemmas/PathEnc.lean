/-
Flattening commutes with percent-encoding: the normalised path is again `/` + clean segments.
Percent-encoding and `uppercase_percent_encoding` replace each character by a non-empty string, leave
`/` and `.` alone and produce neither; such a replacement (`Expands`) maps clean segment lists to clean
segment lists.
-/
import Proofs.Lemmas.Flatten
import Proofs.Lemmas.Alphabet
namespace Wpull.Url

/-- `u` may stand for the character `c` -/
def ExpChar (c : Nat) (u : Str) : Prop :=
  u = [c] ∨ (c ≠ 46 ∧ c ≠ 47 ∧ u ≠ [] ∧ 46 ∉ u ∧ 47 ∉ u)

inductive Expands : Str → Str → Prop
  | nil : Expands [] []
  -- the target as an equation, so that `cases` on `Expands (c :: s) t'` need not unify `t'` with `u ++ t`
  | cons {c : Nat} {u s t t' : Str} : ExpChar c u → Expands s t → t' = u ++ t → Expands (c :: s) t'

theorem Expands.append_inv {a b : Str} : ∀ {t : Str}, Expands (a ++ b) t →
    ∃ ta tb, t = ta ++ tb ∧ Expands a ta ∧ Expands b tb := by
  induction a with
  | nil => exact fun h => ⟨[], _, rfl, .nil, h⟩
  | cons c a ih =>
    intro t h
    cases h with
    | cons hg hr ht =>
      obtain ⟨ta, tb, rfl, h1, h2⟩ := ih hr
      exact ⟨_ ++ ta, tb, by simp [ht], .cons hg h1 rfl, h2⟩

theorem Expands.eq_of_dots {s t : Str} (h : Expands s t) (hd : ∀ x ∈ t, x = 46) : s = t := by
  induction h with
  | nil => rfl
  | cons hg hr he ih =>
    rename_i c u s t t'
    subst he
    have ht := ih (fun x hx => hd x (List.mem_append_right _ hx))
    rcases hg with rfl | ⟨_, _, hne, h46, _⟩
    · rw [ht]; rfl
    · obtain ⟨x, hx⟩ := List.exists_mem_of_ne_nil u hne
      exact absurd (hd x (List.mem_append_left _ hx) ▸ hx) h46

theorem Expands.of_slash {t : Str} (h : Expands [47] t) : t = [47] := by
  cases h with
  | cons hg hr he =>
    cases hr
    rcases hg with hg | hg
    · simp [he, hg]
    · exact absurd rfl hg.2.1

theorem Expands.no_slash {s t : Str} (h : Expands s t) (hs : 47 ∉ s) : 47 ∉ t := by
  induction h with
  | nil => simp
  | cons hg hr he ih =>
    simp only [List.mem_cons, not_or] at hs
    subst he
    intro hm
    rcases List.mem_append.1 hm with hm | hm
    · rcases hg with rfl | hg
      · exact hs.1 (List.mem_singleton.1 hm)
      · exact hg.2.2.2.2 hm
    · exact ih hs.2 hm

theorem Expands.join (segs : List Str) : ∀ t, Expands (joinWith [47] segs) t → segs ≠ [] →
    ∃ segs', t = joinWith [47] segs' ∧ segs' ≠ [] ∧
      (∀ s' ∈ segs', ∃ s ∈ segs, Expands s s') ∧
      (∀ s' ∈ segs'.dropLast, ∃ s ∈ segs.dropLast, Expands s s') := by
  induction segs with
  | nil => intro t _ h; exact absurd rfl h
  | cons a rest ih =>
    intro t h _
    cases rest with
    | nil => exact ⟨[t], rfl, by simp, by simpa [joinWith] using h, by simp⟩
    | cons b r =>
      rw [joinWith_cons_cons] at h
      obtain ⟨tab, tJ, rfl, hab, hJ⟩ := h.append_inv
      obtain ⟨ta, t47, rfl, ha, h47⟩ := hab.append_inv
      cases h47.of_slash
      obtain ⟨segs', rfl, hne, hall, hdl⟩ := ih tJ hJ (by simp)
      cases segs' with
      | nil => exact absurd rfl hne
      | cons b' r' =>
        refine ⟨ta :: b' :: r', by rw [joinWith_cons_cons], by simp, ?_, ?_⟩
        · exact List.forall_mem_cons.2 ⟨⟨a, by simp, ha⟩, fun s' e =>
            (hall s' e).imp fun s h => ⟨List.mem_cons_of_mem _ h.1, h.2⟩⟩
        · rw [List.dropLast_cons_cons, List.dropLast_cons_cons]
          exact List.forall_mem_cons.2 ⟨⟨a, by simp, ha⟩, fun s' e =>
            (hdl s' e).imp fun s h => ⟨List.mem_cons_of_mem _ h.1, h.2⟩⟩

theorem Expands.clean (segs : List Str) (hc : CleanSegs segs) (t : Str)
    (h : Expands (47 :: joinWith [47] segs) t) :
    ∃ segs', CleanSegs segs' ∧ t = 47 :: joinWith [47] segs' := by
  obtain ⟨hne, hall, hdl⟩ := hc
  obtain ⟨t47, tJ, rfl, h47, hJ⟩ := Expands.append_inv (a := [47]) h
  cases h47.of_slash
  obtain ⟨segs', rfl, hne', hall', hdl'⟩ := Expands.join segs tJ hJ hne
  refine ⟨segs', ⟨hne', ?_, ?_⟩, rfl⟩
  · intro s' hs'
    obtain ⟨s, hs, hr⟩ := hall' s' hs'
    obtain ⟨h1, h2, h3⟩ := hall s hs
    exact ⟨hr.no_slash h1, fun e => h2 (hr.eq_of_dots (by simp [e]) ▸ e), fun e => h3 (hr.eq_of_dots (by simp [e]) ▸ e)⟩
  · intro s' hs'
    obtain ⟨s, hs, hr⟩ := hdl' s' hs'
    exact fun e => hdl s hs (hr.eq_of_dots (by simp [e]) ▸ e)

theorem expChar_hex (a : Nat) (h : isHexDigit a = true) : ExpChar a [asciiUpper a] := by
  rw [isHexDigit_iff] at h
  have := asciiUpper_cases a
  refine .inr ⟨by omega, by omega, List.cons_ne_nil _ _, ?_, ?_⟩ <;> rw [List.mem_singleton] <;> omega

theorem upperPct_expands (s : Str) : Expands s (upperPct s) := by
  fun_induction upperPct s with
  | case1 c a b t hcond ih =>
    simp at hcond
    exact .cons (.inl rfl) (.cons (expChar_hex a hcond.1.2) (.cons (expChar_hex b hcond.2) ih rfl) rfl) rfl
  | case2 c a b t hcond ih => exact .cons (.inl rfl) ih rfl
  | case3 c a => exact .cons (.inl rfl) (.cons (.inl rfl) .nil rfl) rfl
  | case4 c => exact .cons (.inl rfl) .nil rfl
  | case5 => exact .nil

theorem encode_expands {enc : Str → Except PyExc Bytes} (h : SegSafe enc) {set : List Nat}
    (hdot : pctBytes set [46] = [46]) (hslash : pctBytes set [47] = [47]) (s : Str) :
    ∀ bs, enc s = .ok bs → Expands s (pctBytes set bs) := by
  obtain ⟨f, rfl, h1, h2⟩ := h
  induction s with
  | nil =>
    intro bs he
    cases he
    exact .nil
  | cons c t ih =>
    intro bs he
    obtain ⟨a, b, ha, hb, rfl⟩ := encodeBy_cons_ok f c t bs he
    refine .cons (u := pctBytes set a) ?_ (ih b hb) (pctBytes_append _ _ _)
    -- bytes other than '.' and '/' give neither: what is emitted is an escape character or the byte
    have hgen : a ≠ [] → (∀ x ∈ a, x < 256 ∧ x ≠ 46 ∧ x ≠ 47) → c ≠ 46 → c ≠ 47 →
        ExpChar c (pctBytes set a) := by
      intro hne hx h46 h47
      have hm : ∀ x ∈ pctBytes set a, x ≠ 46 ∧ x ≠ 47 := by
        intro x hm
        rcases pctBytes_mem (fun b hb => (hx b hb).1) x hm with e | e
        · unfold EscChar at e; omega
        · exact (hx x e.1).2
      exact .inr ⟨h46, h47, pctBytes_ne_nil _ hne, fun h => (hm _ h).1 rfl, fun h => (hm _ h).2 rfl⟩
    by_cases hc : c < 128
    · rw [h1 c hc] at ha
      cases ha
      by_cases h46 : c = 46
      · subst h46; exact .inl hdot
      by_cases h47 : c = 47
      · subst h47; exact .inl hslash
      exact hgen (by simp) (by simp; omega) h46 h47
    · have := h2 c a (by omega) ha
      exact hgen this.1 this.2 (by omega) (by omega)

theorem path_normal_clean {enc : Str → Except PyExc Bytes} (h : SegSafe enc) {segs : List Str} (hc : CleanSegs segs)
    {bs : Bytes} (he : enc (47 :: joinWith [47] segs) = .ok bs) :
    ∃ segs', CleanSegs segs' ∧ upperPct (pctBytes defaultSet bs) = 47 :: joinWith [47] segs' := by
  obtain ⟨segs1, hc1, e1⟩ := Expands.clean segs hc _ (encode_expands h (set := defaultSet) (by decide) (by decide) _ bs he)
  rw [e1]
  exact Expands.clean segs1 hc1 _ (upperPct_expands _)

end Wpull.Url
