/-
The alphabet of a normalised component: `percent_encode` + `uppercase_percent_encoding` emit escape characters and bytes
the encode set passes (`OutChar`, `component_out`) and return a text of such characters unchanged (`percentEncode_of_outChar`).
-/
import Proofs.Lemmas.UrlInv
namespace Wpull.Url

theorem pctBytes_eq_flatMap (set : List Nat) (bs : Bytes) : pctBytes set bs = bs.flatMap (pctByte set) := by
  induction bs with
  | nil => rfl
  | cons b t ih => rw [pctBytes, ih, List.flatMap_cons]

theorem pctBytes_append (set : List Nat) (x y : Bytes) :
    pctBytes set (x ++ y) = pctBytes set x ++ pctBytes set y := by
  simp only [pctBytes_eq_flatMap, List.flatMap_append]

theorem pctBytes_ne_nil (set : List Nat) {bs : Bytes} (h : bs ≠ []) : pctBytes set bs ≠ [] := by
  cases bs with
  | nil => exact absurd rfl h
  | cons b t =>
    have : pctByte set b ≠ [] := by unfold pctByte; split <;> simp
    simp [pctBytes, this]

/-- the encode set leaves `%` and the sixteen upper-case hex digits alone -/
def SetClosed (set : List Nat) : Prop :=
  set.contains 37 = false ∧ ∀ n, n < 16 → set.contains (hexChar n) = false

instance (set : List Nat) : Decidable (SetClosed set) := by unfold SetClosed; exact inferInstance

/-- a character that `percent_encode` with this set passes through unchanged -/
def Stable (set : List Nat) (c : Nat) : Prop := 0x20 ≤ c ∧ c ≤ 0x7E ∧ set.contains c = false

/-- the escape alphabet: `%` and the upper-case hex digits -/
def EscChar (c : Nat) : Prop := c = 37 ∨ (48 ≤ c ∧ c ≤ 57) ∨ (65 ≤ c ∧ c ≤ 70)

/-- a character `percent_encode` + `uppercase_percent_encoding` can emit -/
def OutChar (set : List Nat) (c : Nat) : Prop := EscChar c ∨ Stable set c

instance (c : Nat) : Decidable (EscChar c) := by unfold EscChar; exact inferInstance
instance (set : List Nat) (c : Nat) : Decidable (OutChar set c) := by
  unfold OutChar Stable; exact inferInstance

theorem pctByte_stable {set : List Nat} {c : Nat} (h : Stable set c) : pctByte set c = [c] := by
  obtain ⟨h1, h2, h3⟩ := h
  simpa [pctByte, Nat.not_lt.2 h1, Nat.not_lt.2 h2] using h3

theorem pctBytes_stable {set : List Nat} : ∀ {s : Str}, (∀ c ∈ s, Stable set c) → pctBytes set s = s
  | [], _ => rfl
  | c :: t, h => by
    obtain ⟨hc, ht⟩ := List.forall_mem_cons.1 h
    rw [pctBytes, pctByte_stable hc, pctBytes_stable ht]
    rfl

theorem escChar_hexChar {n : Nat} (h : n < 16) : EscChar (hexChar n) := by
  unfold hexChar EscChar; split <;> omega

theorem SetClosed.stable {set : List Nat} (hs : SetClosed set) {c : Nat} (h : EscChar c) : Stable set c := by
  have hr : 0x20 ≤ c ∧ c ≤ 0x7E := by unfold EscChar at h; omega
  have hx : ∀ n, n < 16 → c = hexChar n → Stable set c := fun n hn e => ⟨hr.1, hr.2, e ▸ hs.2 n hn⟩
  rcases h with rfl | h | h
  · exact ⟨hr.1, hr.2, hs.1⟩
  · exact hx (c - 48) (by omega) (by unfold hexChar; split <;> omega)
  · exact hx (c - 55) (by omega) (by unfold hexChar; split <;> omega)

theorem pctByte_mem {set : List Nat} {b : Nat} (hb : b < 256) :
    ∀ c ∈ pctByte set b, EscChar c ∨ (c = b ∧ Stable set b) := by
  unfold pctByte
  split
  · intro c hc
    simp only [List.mem_cons, List.not_mem_nil, or_false] at hc
    rcases hc with rfl | rfl | rfl
    · exact .inl (.inl rfl)
    · exact .inl (escChar_hexChar (by omega))
    · exact .inl (escChar_hexChar (by omega))
  · rename_i h
    simp only [Bool.or_eq_true, decide_eq_true_eq, not_or, Bool.not_eq_true] at h
    intro c hc
    exact .inr ⟨List.mem_singleton.1 hc, by omega, by omega, h.2⟩

theorem pctBytes_mem {set : List Nat} {bs : Bytes} (h : ∀ b ∈ bs, b < 256) :
    ∀ c ∈ pctBytes set bs, EscChar c ∨ (c ∈ bs ∧ Stable set c) := by
  intro c hc
  rw [pctBytes_eq_flatMap, List.mem_flatMap] at hc
  obtain ⟨b, hb, hc⟩ := hc
  exact (pctByte_mem (h b hb) c hc).imp_right fun ⟨e, hs⟩ => ⟨e ▸ hb, e ▸ hs⟩

theorem upperPct_mem (s : Str) : ∀ c ∈ upperPct s, c ∈ s ∨ (65 ≤ c ∧ c ≤ 70) := by
  fun_induction upperPct s with
  | case1 c a b t hm ih =>
    simp only [Bool.and_eq_true] at hm
    have up : ∀ x, isHexDigit x = true → asciiUpper x = x ∨ (65 ≤ asciiUpper x ∧ asciiUpper x ≤ 70) := by
      intro x hx
      rw [isHexDigit_iff] at hx
      rcases asciiUpper_cases x with ⟨h1, h2, e⟩ | ⟨-, e⟩
      · exact .inr (by omega)
      · exact .inl e
    intro x hx
    simp only [List.mem_cons] at hx ⊢
    rcases hx with rfl | rfl | rfl | hx
    · exact .inl (.inl rfl)
    · exact (up a hm.1.2).imp (fun e => .inr (.inl e)) id
    · exact (up b hm.2).imp (fun e => .inr (.inr (.inl e))) id
    · exact (ih x hx).imp (fun e => .inr (.inr (.inr e))) id
  | case2 c a b t hm ih =>
    intro x hx
    rcases List.mem_cons.1 hx with rfl | hx
    · exact .inl (by simp)
    · exact (ih x hx).imp_left (List.mem_cons_of_mem _)
  | case3 c a => exact fun x hx => .inl hx
  | case4 c => exact fun x hx => .inl hx
  | case5 => exact fun x hx => .inl hx

theorem upperPct_out {set : List Nat} {s : Str} (h : ∀ c ∈ s, OutChar set c) : ∀ c ∈ upperPct s, OutChar set c :=
  fun c hc => (upperPct_mem s c hc).elim (h c) fun e => .inl (.inr (.inr e))

theorem component_out {set : List Nat} {bs : Bytes} (hb : ∀ b ∈ bs, b < 256) :
    ∀ c ∈ upperPct (pctBytes set bs), OutChar set c :=
  upperPct_out fun c hc => (pctBytes_mem hb c hc).imp_right And.right

theorem outChar_range {set : List Nat} {c : Nat} (h : OutChar set c) : 0x20 ≤ c ∧ c ≤ 0x7E := by
  unfold OutChar EscChar Stable at h; omega

theorem outChar_print {set : List Nat} (h32 : set.contains 32 = true) {c : Nat} (h : OutChar set c) :
    0x20 < c ∧ c < 0x80 := by
  have := outChar_range h
  have : c ≠ 32 := by
    rintro rfl
    exact h.elim (by decide) fun hs => absurd (h32 ▸ hs.2.2) (by decide)
  omega

/-- the side condition is evaluated on the concrete set where the lemma is used -/
theorem outChar_ne {set : List Nat} {c : Nat} (h : OutChar set c) (d : Nat)
    (hd : ¬ OutChar set d := by decide) : c ≠ d :=
  fun e => hd (e ▸ h)

theorem not_mem_of_out {set : List Nat} {s : Str} (h : ∀ c ∈ s, OutChar set c) (d : Nat)
    (hd : ¬ OutChar set d := by decide) : d ∉ s :=
  fun hm => hd (h d hm)

theorem percentEncode_of_outChar {enc : Str → Except PyExc Bytes} (henc : SegSafe enc) {set : List Nat}
    (hs : SetClosed set) {s : Str} (h : ∀ c ∈ s, OutChar set c) : percentEncode enc set s = .ok s := by
  unfold percentEncode
  rw [segSafe_ascii henc (fun c hc => by have := outChar_range (h c hc); omega)]
  simp only
  rw [pctBytes_stable (fun c hc => (h c hc).elim hs.stable id)]

end Wpull.Url
