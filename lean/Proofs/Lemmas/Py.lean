/-
The string primitives of `Wpull/Py` as the proofs of all engines use them.  For `findChar`, `partition1`,
`rpartition1`, `splitC` the two computation rules (separator absent; text cut at a separator); for `natDec` its
recursion equation, induction along it, and what is read off that (digits, length, no leading zero, value).
Where an engine carries a copy of a primitive under a name of its own (`Warc.strip`, `Filter.pyStrip`, `Warc.decimal`,
`Ftp.utf8SE`, …), a proof that needs a fact about the primitive first identifies the copy with it.
-/
import Wpull.Py.Str
import Proofs.Lemmas.List
namespace Wpull

/-- `asciiLower` in the form `omega` reads; `asciiUpper_cases` likewise -/
theorem asciiLower_cases (c : Nat) :
    65 ≤ c ∧ c ≤ 90 ∧ asciiLower c = c + 32 ∨ (c < 65 ∨ 90 < c) ∧ asciiLower c = c := by
  unfold asciiLower isAsciiUpper
  split <;> rename_i h <;> simp only [Bool.and_eq_true, decide_eq_true_eq] at h <;> omega

theorem asciiUpper_cases (c : Nat) :
    97 ≤ c ∧ c ≤ 122 ∧ asciiUpper c + 32 = c ∨ (c < 97 ∨ 122 < c) ∧ asciiUpper c = c := by
  unfold asciiUpper isAsciiLower
  split <;> rename_i h <;> simp only [Bool.and_eq_true, decide_eq_true_eq] at h <;> omega

theorem asciiLower_not_upper (a : Nat) : isAsciiUpper (asciiLower a) = false := by
  simp only [isAsciiUpper, Bool.and_eq_false_iff, decide_eq_false_iff_not]
  rcases asciiLower_cases a with ⟨h1, h2, e⟩ | ⟨h, e⟩ <;> omega

theorem asciiLower_idem (a : Nat) : asciiLower (asciiLower a) = asciiLower a := by
  rw [asciiLower, asciiLower_not_upper]
  rfl

theorem asciiLower_lt {a : Nat} (h : a < 128) : asciiLower a < 128 := by
  rcases asciiLower_cases a with ⟨h1, h2, e⟩ | ⟨-, e⟩ <;> omega

theorem le_asciiLower (a : Nat) : a ≤ asciiLower a := by
  rcases asciiLower_cases a with ⟨h1, h2, e⟩ | ⟨-, e⟩ <;> omega

theorem asciiUpper_not_lower (a : Nat) : isAsciiLower (asciiUpper a) = false := by
  simp only [isAsciiLower, Bool.and_eq_false_iff, decide_eq_false_iff_not]
  rcases asciiUpper_cases a with ⟨h1, h2, e⟩ | ⟨h, e⟩ <;> omega

theorem asciiUpper_idem (a : Nat) : asciiUpper (asciiUpper a) = asciiUpper a := by
  rw [asciiUpper, asciiUpper_not_lower]
  rfl

theorem isHexDigit_iff (c : Nat) :
    isHexDigit c = true ↔ (48 ≤ c ∧ c ≤ 57) ∨ (65 ≤ c ∧ c ≤ 70) ∨ (97 ≤ c ∧ c ≤ 102) := by
  simp only [isHexDigit, isAsciiDigit, Bool.or_eq_true, Bool.and_eq_true, decide_eq_true_eq, or_assoc]

theorem isHexDigit_asciiUpper (a : Nat) : isHexDigit (asciiUpper a) = isHexDigit a := by
  rcases asciiUpper_cases a with ⟨h1, h2, e⟩ | ⟨-, e⟩
  · rw [Bool.eq_iff_iff, isHexDigit_iff, isHexDigit_iff]
    omega
  · rw [e]

theorem startsWith_iff (s p : List Nat) : startsWith s p = true ↔ ∃ t, s = p ++ t := by
  induction p generalizing s with
  | nil => cases s <;> simp [startsWith]
  | cons b p ih =>
    cases s with
    | nil => simp [startsWith]
    | cons a s =>
      simp only [startsWith, Bool.and_eq_true, beq_iff_eq, ih, List.cons_append, List.cons.injEq]
      constructor
      · rintro ⟨rfl, t, rfl⟩; exact ⟨t, rfl, rfl⟩
      · rintro ⟨t, rfl, rfl⟩; exact ⟨rfl, t, rfl⟩

theorem startsWith_append (p t : List Nat) : startsWith (p ++ t) p = true :=
  (startsWith_iff _ _).mpr ⟨t, rfl⟩

theorem endsWith_append (t p : List Nat) : endsWith (t ++ p) p = true := by
  rw [endsWith, List.reverse_append]
  exact startsWith_append _ _

theorem startsWith_single (s : List Nat) (c : Nat) : startsWith s [c] = (s.head? == some c) := by
  cases s <;> simp [startsWith]

theorem endsWith_single (s : List Nat) (c : Nat) : endsWith s [c] = (s.getLast? == some c) := by
  rw [endsWith, List.reverse_singleton, startsWith_single, List.head?_reverse]

theorem startsWith_of_not_mem {s : Str} {c : Nat} (h : c ∉ s) : startsWith s [c] = false := by
  rw [startsWith_single, beq_eq_false_iff_ne]
  exact fun e => h (List.mem_of_mem_head? e)

theorem findChar_none {c : Nat} {s : List Nat} (h : c ∉ s) : findChar c s = none := by
  induction s with
  | nil => rfl
  | cons x t ih =>
    simp only [List.mem_cons, not_or] at h
    simp [findChar, Ne.symm h.1, ih h.2]

theorem findChar_append {c : Nat} {a : List Nat} (b : List Nat) (h : c ∉ a) :
    findChar c (a ++ c :: b) = some a.length := by
  induction a with
  | nil => simp [findChar]
  | cons x t ih =>
    simp only [List.mem_cons, not_or] at h
    simp [findChar, Ne.symm h.1, ih h.2]

theorem partition1_none {c : Nat} {s : List Nat} (h : c ∉ s) : partition1 c s = (s, false, []) := by
  induction s with
  | nil => rfl
  | cons x t ih =>
    simp only [List.mem_cons, not_or] at h
    simp [partition1, Ne.symm h.1, ih h.2]

theorem partition1_append {c : Nat} {a : List Nat} (b : List Nat) (h : c ∉ a) :
    partition1 c (a ++ c :: b) = (a, true, b) := by
  induction a with
  | nil => simp [partition1]
  | cons x t ih =>
    simp only [List.mem_cons, not_or] at h
    simp [partition1, Ne.symm h.1, ih h.2]

theorem partition1_cases (c : Nat) (s : List Nat) :
    partition1 c s = (s, false, []) ∨ ∃ a b, s = a ++ c :: b ∧ partition1 c s = (a, true, b) := by
  by_cases h : c ∈ s
  · obtain ⟨a, b, rfl, ha⟩ := List.eq_append_cons_of_mem h
    exact .inr ⟨a, b, rfl, partition1_append b ha⟩
  · exact .inl (partition1_none h)

theorem rpartition1_none {c : Nat} {s : List Nat} (h : c ∉ s) : rpartition1 c s = ([], false, s) := by
  simp [rpartition1, partition1_none (mt List.mem_reverse.1 h)]

theorem rpartition1_append {c : Nat} (a : List Nat) {b : List Nat} (h : c ∉ b) :
    rpartition1 c (a ++ c :: b) = (a, true, b) := by
  simp [rpartition1, partition1_append a.reverse (mt List.mem_reverse.1 h)]

theorem rpartition1_cases (c : Nat) (s : List Nat) :
    rpartition1 c s = ([], false, s) ∨ ∃ a b, s = a ++ c :: b ∧ rpartition1 c s = (a, true, b) := by
  by_cases h : c ∈ s
  · obtain ⟨b, a, e, hb⟩ := List.eq_append_cons_of_mem (List.mem_reverse.2 h)
    have e' : s = a.reverse ++ c :: b.reverse := by simpa using congrArg List.reverse e
    exact .inr ⟨_, _, e', e' ▸ rpartition1_append _ (mt List.mem_reverse.1 hb)⟩
  · exact .inl (rpartition1_none h)

theorem splitC_ne_nil (c : Nat) (s : Str) : splitC c s ≠ [] := by
  cases s with
  | nil => simp [splitC]
  | cons x t =>
    unfold splitC
    split
    · simp
    · split <;> simp

theorem splitC_of_free {c : Nat} {a : Str} (h : c ∉ a) : splitC c a = [a] := by
  induction a with
  | nil => rfl
  | cons x t ih =>
    simp only [List.mem_cons, not_or] at h
    simp [splitC, Ne.symm h.1, ih h.2]

theorem splitC_append (c : Nat) (a b : Str) : splitC c (a ++ c :: b) = splitC c a ++ splitC c b := by
  induction a with
  | nil => simp [splitC]
  | cons x t ih =>
    obtain ⟨h, r, e⟩ := List.exists_cons_of_ne_nil (splitC_ne_nil c t)
    by_cases hx : x = c <;> simp [splitC, hx, ih, e]

theorem mem_splitC (c : Nat) (s : Str) : ∀ a ∈ splitC c s, c ∉ a ∧ a ⊆ s := by
  by_cases h : c ∈ s
  · obtain ⟨p, b, rfl, hp⟩ := List.eq_append_cons_of_mem h
    rw [splitC_append, splitC_of_free hp]
    intro a ha
    rcases List.mem_cons.1 ha with rfl | ha
    · exact ⟨hp, List.subset_append_left _ _⟩
    · have := mem_splitC c b a ha
      exact ⟨this.1, fun y hy => List.mem_append_right _ (List.mem_cons_of_mem _ (this.2 hy))⟩
  · rw [splitC_of_free h]
    intro a ha
    rw [List.mem_singleton.1 ha]
    exact ⟨h, List.Subset.refl _⟩
termination_by s.length
decreasing_by subst_vars; simp; omega

theorem joinWith_cons_cons (sep a b : Str) (r : List Str) :
    joinWith sep (a :: b :: r) = a ++ sep ++ joinWith sep (b :: r) := by
  simp [joinWith]

theorem splitC_join (c : Nat) (segs : List Str) (hne : segs ≠ []) (hf : ∀ s ∈ segs, c ∉ s) :
    splitC c (joinWith [c] segs) = segs := by
  induction segs with
  | nil => exact absurd rfl hne
  | cons a rest ih =>
    obtain ⟨ha, hr⟩ := List.forall_mem_cons.1 hf
    cases rest with
    | nil => simpa [joinWith] using splitC_of_free ha
    | cons b r =>
      rw [joinWith_cons_cons, List.append_assoc, List.singleton_append, splitC_append,
        splitC_of_free ha, ih (by simp) hr]
      rfl

theorem joinWith_cons_of_ne_nil (sep a : Str) {r : List Str} (h : r ≠ []) :
    joinWith sep (a :: r) = a ++ sep ++ joinWith sep r := by
  obtain ⟨b, r, rfl⟩ := List.exists_cons_of_ne_nil h
  exact joinWith_cons_cons sep a b r

theorem joinWith_concat (sep : Str) (init : List Str) (l : Str) :
    joinWith sep (init ++ [l]) = init.flatMap (· ++ sep) ++ l := by
  induction init with
  | nil => simp [joinWith]
  | cons a r ih =>
    cases r with
    | nil => simp [joinWith]
    | cons b r =>
      rw [List.cons_append, List.cons_append, joinWith_cons_cons, ← List.cons_append, ih]
      simp

theorem endsWith_join_concat {c : Nat} (init : List Str) {l : Str} (hl : c ∉ l) :
    endsWith (joinWith [c] (init ++ [l])) [c] = (l.isEmpty && !init.isEmpty) := by
  rw [endsWith_single, joinWith_concat]
  cases l with
  | nil =>
    rcases List.eq_nil_or_concat init with rfl | ⟨i, x, rfl⟩
    · rfl
    · simp
  | cons x t =>
    rw [List.getLast?_append_of_ne_nil _ (List.cons_ne_nil x t)]
    exact beq_eq_false_iff_ne.2 fun e => hl (List.mem_of_getLast? e)

/-- the loop of `splitOn1` builds the first piece in its accumulator -/
theorem splitOn1_go_eq (sep : Nat) (s : Str) : ∀ (acc h : Str) (r : List Str), splitC sep s = h :: r →
    splitOn1.go sep s acc = (acc.reverse ++ h) :: r := by
  induction s with
  | nil => intro acc h r e; cases e; simp [splitOn1.go]
  | cons x t ih =>
    intro acc h r e
    obtain ⟨h', r', e'⟩ := List.exists_cons_of_ne_nil (splitC_ne_nil sep t)
    by_cases hx : x = sep <;> simp [splitC, hx, e'] at e <;> obtain ⟨rfl, rfl⟩ := e
    · simp [splitOn1.go, hx, ih [] h' r' e']
    · simp [splitOn1.go, hx, ih (x :: acc) h' r' e']

/-- the two models of `s.split(c)` are one function -/
theorem splitOn1_eq_splitC (s : Str) (sep : Nat) : splitOn1 s sep = splitC sep s := by
  obtain ⟨h, r, e⟩ := List.exists_cons_of_ne_nil (splitC_ne_nil sep s)
  rw [splitOn1, splitOn1_go_eq sep s [] h r e, e]
  rfl

theorem strip_subset (s : Str) : strip s ⊆ s := fun _ h =>
  List.dropWhile_subset _ (List.mem_reverse.1 (List.dropWhile_subset _ (List.mem_reverse.1 h)))

theorem strip_id {s : Str} (h : ∀ x ∈ s, isPySpace x = false) : strip s = s := by
  have key : ∀ t : Str, (∀ x ∈ t, isPySpace x = false) → t.dropWhile isPySpace = t := by
    intro t ht
    cases t with
    | nil => rfl
    | cons x t => simp [ht x (by simp)]
  unfold strip lstrip rstrip
  rw [key s h, key s.reverse (fun x hx => h x (List.mem_reverse.1 hx)), List.reverse_reverse]

theorem mem_replace1 {a b x : Nat} {s : Str} (h : x ∈ replace1 a b s) : x = b ∨ x ∈ s := by
  unfold replace1 at h
  obtain ⟨y, hy, rfl⟩ := List.mem_map.mp h
  split
  · exact .inl rfl
  · exact .inr hy

theorem ne_of_mem_replace1 {a b x : Nat} {s : Str} (hab : a ≠ b) (h : x ∈ replace1 a b s) : x ≠ a := by
  unfold replace1 at h
  obtain ⟨y, -, rfl⟩ := List.mem_map.mp h
  split
  · exact Ne.symm hab
  · rename_i e
    simpa using e

theorem encodeBy_cons_ok (f : Nat → Except PyExc Bytes) (c : Nat) (t : Str) (bs : Bytes)
    (h : encodeBy f (c :: t) = .ok bs) :
    ∃ a b, f c = .ok a ∧ encodeBy f t = .ok b ∧ bs = a ++ b := by
  unfold encodeBy at h
  split at h
  · cases h
  split at h
  · cases h
  cases h
  exact ⟨_, _, ‹_›, ‹_›, rfl⟩

theorem encodeBy_mem {f : Nat → Except PyExc Bytes} {s : Str} {bs : Bytes} (h : encodeBy f s = .ok bs)
    {b : Nat} (hb : b ∈ bs) : ∃ c ∈ s, ∃ a, f c = .ok a ∧ b ∈ a := by
  induction s generalizing bs with
  | nil => cases h; cases hb
  | cons c t ih =>
    obtain ⟨a, r, ha, hr, rfl⟩ := encodeBy_cons_ok f c t bs h
    rcases List.mem_append.1 hb with hb | hb
    · exact ⟨c, by simp, a, ha, hb⟩
    · obtain ⟨c', hc', h'⟩ := ih hr hb
      exact ⟨c', List.mem_cons_of_mem _ hc', h'⟩

theorem encodeBy_append (f : Nat → Except PyExc Bytes) : ∀ (s t : Str) (bs : Bytes), encodeBy f (s ++ t) = .ok bs →
    ∃ a b, encodeBy f s = .ok a ∧ encodeBy f t = .ok b ∧ bs = a ++ b
  | [], t, bs, h => ⟨[], bs, rfl, h, rfl⟩
  | c :: s, t, bs, h => by
    obtain ⟨x, y, hx, hy, rfl⟩ := encodeBy_cons_ok f c (s ++ t) bs h
    obtain ⟨a, b, hs, ht, rfl⟩ := encodeBy_append f s t y hy
    exact ⟨x ++ a, b, by simp [encodeBy, hx, hs], ht, by simp⟩

theorem natDecAux_eq (n : Nat) : ∀ f g acc, n < f → n < g → natDecAux f n acc = natDecAux g n [] ++ acc := by
  induction n using Nat.strongRecOn with
  | _ n ih =>
    intro f g acc hf hg
    obtain ⟨f, rfl⟩ := Nat.exists_eq_succ_of_ne_zero (Nat.ne_of_gt (Nat.zero_lt_of_lt hf))
    obtain ⟨g, rfl⟩ := Nat.exists_eq_succ_of_ne_zero (Nat.ne_of_gt (Nat.zero_lt_of_lt hg))
    by_cases h : n < 10
    · simp [natDecAux, h]
    · have hd : n / 10 < n := Nat.div_lt_self (by omega) (by decide)
      simp only [natDecAux, h, if_false]
      rw [ih _ hd f g _ (by omega) (by omega), ih _ hd g g [_] (by omega) (by omega)]
      simp

theorem natDec_eq (n : Nat) :
    natDec n = if n < 10 then [48 + n] else natDec (n / 10) ++ [48 + n % 10] := by
  rw [natDec, natDecAux]
  split
  · rfl
  · exact natDecAux_eq _ _ _ _ (by omega) (Nat.lt_succ_self _)

theorem natDec_induction {P : Nat → Str → Prop} (small : ∀ n, n < 10 → P n [48 + n])
    (step : ∀ n, ¬ n < 10 → P (n / 10) (natDec (n / 10)) → P n (natDec (n / 10) ++ [48 + n % 10])) :
    ∀ n, P n (natDec n) := by
  intro n
  induction n using Nat.strongRecOn with
  | _ n ih =>
    rw [natDec_eq]
    split
    · exact small n ‹_›
    · exact step n ‹_› (ih _ (Nat.div_lt_self (by omega) (by decide)))

theorem natDec_digits (n : Nat) : natDec n ≠ [] ∧ ∀ c ∈ natDec n, 48 ≤ c ∧ c ≤ 57 := by
  refine natDec_induction (P := fun _ s => s ≠ [] ∧ ∀ c ∈ s, 48 ≤ c ∧ c ≤ 57) ?_ ?_ n
  · intro n h
    exact ⟨List.cons_ne_nil _ _, List.forall_mem_singleton.2 (by omega)⟩
  · intro n _ ih
    exact ⟨by simp, List.forall_concat ih.2 (by omega)⟩

theorem natDec_length (n : Nat) : ∀ k, n < 10 ^ (k + 1) → (natDec n).length ≤ k + 1 := by
  refine natDec_induction (P := fun n s => ∀ k, n < 10 ^ (k + 1) → s.length ≤ k + 1) ?_ ?_ n
  · intro n _ k _
    simp
  · intro n h ih k hk
    cases k with
    | zero => omega
    | succ k =>
      rw [Nat.pow_succ] at hk
      have := ih k ((Nat.div_lt_iff_lt_mul (by decide)).mpr hk)
      rw [List.length_append, List.length_singleton]
      omega

theorem not_mem_natDec {c : Nat} (hc : c < 48 ∨ 57 < c) (n : Nat) : c ∉ natDec n := fun hm => by
  have := (natDec_digits n).2 c hm
  omega

theorem endsWith_natDec (a : Str) (n : Nat) {c : Nat} (hc : c < 48 ∨ 57 < c) :
    endsWith (a ++ natDec n) [c] = false := by
  rw [endsWith_single, List.getLast?_append_of_ne_nil a (natDec_digits n).1, beq_eq_false_iff_ne]
  exact fun e => not_mem_natDec hc n (List.mem_of_getLast? e)

theorem natDec_head (n : Nat) (hn : 0 < n) : ∃ c t, natDec n = c :: t ∧ 49 ≤ c ∧ c ≤ 57 := by
  refine natDec_induction (P := fun n s => 0 < n → ∃ c t, s = c :: t ∧ 49 ≤ c ∧ c ≤ 57) ?_ ?_ n hn
  · intro n h h0
    exact ⟨_, _, rfl, by omega, by omega⟩
  · intro n h ih _
    obtain ⟨c, t, e, hc⟩ := ih (Nat.div_pos (by omega) (by decide))
    exact ⟨c, t ++ [48 + n % 10], by simp [e], hc⟩

theorem natDec_value (n : Nat) : (natDec n).foldl (fun a c => a * 10 + (c - 48)) 0 = n := by
  refine natDec_induction (P := fun n s => s.foldl (fun a c => a * 10 + (c - 48)) 0 = n) ?_ ?_ n
  · intro n _
    simp
  · intro n _ ih
    rw [List.foldl_append, ih, List.foldl_cons, List.foldl_nil]
    omega

end Wpull
