/- The line layer of `Wpull.Ftp` (`findLF`, `splitLF`), shared by C17, C08Trunc and C04. -/
import Wpull.Ftp
namespace Wpull.Ftp

theorem findLF_some {b : Bytes} {i : Nat} (h : findLF b = some i) :
    i < b.length ∧ b[i]? = some 10 ∧ 10 ∉ b.take i := by
  fun_induction findLF b generalizing i with
  | case1 => cases h
  | case2 t => cases h; simp
  | case3 c t hc ih =>
    obtain ⟨j, hj, rfl⟩ := Option.map_eq_some_iff.1 h
    simpa [Ne.symm hc] using ih hj

theorem findLF_eq_none {b : Bytes} : findLF b = none ↔ 10 ∉ b := by
  fun_induction findLF b with
  | case1 => simp
  | case2 t => simp
  | case3 c t hc ih => simp [ih, Ne.symm hc]

theorem findLF_append_none {a b : Bytes} (h : findLF a = none) :
    findLF (a ++ b) = (findLF b).map (· + a.length) := by
  fun_induction findLF a with
  | case1 => simp
  | case2 t => cases h
  | case3 c t hc ih =>
    simp [findLF, hc, ih (Option.map_eq_none_iff.1 h), Function.comp_def, Nat.add_assoc]

theorem findLF_append_some {a b : Bytes} {i : Nat} (h : findLF a = some i) :
    findLF (a ++ b) = some i := by
  fun_induction findLF a generalizing i with
  | case1 => cases h
  | case2 t => simpa [findLF] using h
  | case3 c t hc ih =>
    obtain ⟨j, hj, rfl⟩ := Option.map_eq_some_iff.1 h
    simp [findLF, hc, ih hj]

theorem splitLF_append (a b : Bytes) :
    splitLF (a ++ b) = match findLF a with
      | some i => (a.take (i + 1), a.drop (i + 1) ++ b)
      | none => (a ++ (splitLF b).1, (splitLF b).2) := by
  cases h : findLF a with
  | some i =>
    have hle : i + 1 ≤ a.length := (findLF_some h).1
    simp only [splitLF, findLF_append_some h, List.take_append_of_le_length hle,
      List.drop_append_of_le_length hle]
  | none =>
    simp only [splitLF, findLF_append_none h]
    cases findLF b with
    | none => simp
    | some j =>
      simp only [Option.map_some, Nat.add_assoc, Nat.add_comm j]
      rw [List.take_length_add_append, List.drop_length_add_append]

end Wpull.Ftp
