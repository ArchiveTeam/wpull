/-
List lemmas for the items in flight, and the shape of a step of `Wpull.Crawl.step` as a relation
(`Tr`), which is what every preservation proof analyses.
-/
import Proofs.Lemmas.CrawlTable
namespace Wpull.Crawl

def pend : Item → List Url
  | ⟨_, .running p⟩ => p
  | ⟨_, .flushed⟩ => []

theorem pend_running (r : Row) (p : List Url) : pend ⟨r, .running p⟩ = p := rfl
theorem pend_flushed (r : Row) : pend ⟨r, .flushed⟩ = [] := rfl

def iurls (l : List Item) : List Url := l.map (·.row.url)

theorem findItem_some {l : List Item} {u : Url} {it : Item} (h : findItem l u = some it) :
    it ∈ l ∧ it.row.url = u :=
  ⟨List.mem_of_find?_eq_some h, beq_iff_eq.1 (List.find?_some (p := fun x : Item => x.row.url == u) h)⟩

theorem mem_putItem {l : List Item} {it x : Item} (h : x ∈ putItem l it) :
    x = it ∨ (x ∈ l ∧ x.row.url ≠ it.row.url) := by
  obtain ⟨y, hy, rfl⟩ := List.mem_map.mp h
  by_cases hu : y.row.url = it.row.url
  · exact .inl (if_pos (beq_iff_eq.2 hu))
  · rw [if_neg (mt beq_iff_eq.1 hu)]; exact .inr ⟨hy, hu⟩

theorem forall_putItem {l : List Item} {it : Item} {P : Item → Prop} (hl : ∀ x ∈ l, P x) (hit : P it) :
    ∀ x ∈ putItem l it, P x :=
  fun x hx => (mem_putItem hx).elim (fun e => e ▸ hit) fun h => hl x h.1

theorem putItem_mem_other {l : List Item} {it x : Item} (h : x ∈ l) (hu : x.row.url ≠ it.row.url) :
    x ∈ putItem l it :=
  List.mem_map.mpr ⟨x, h, if_neg (mt beq_iff_eq.1 hu)⟩

theorem putItem_mem_self {l : List Item} {it x : Item} (h : x ∈ l) (hu : x.row.url = it.row.url) :
    it ∈ putItem l it :=
  List.mem_map.mpr ⟨x, h, if_pos (beq_iff_eq.2 hu)⟩

@[simp] theorem iurls_putItem (l : List Item) (it : Item) : iurls (putItem l it) = iurls l := by
  rw [iurls, putItem, List.map_map]
  refine List.map_congr_left fun x _ => ?_
  show (if (x.row.url == it.row.url) = true then it else x).row.url = x.row.url
  split
  · exact (beq_iff_eq.1 ‹_›).symm
  · rfl

theorem iurls_concat (l : List Item) (it : Item) : iurls (l ++ [it]) = iurls l ++ [it.row.url] :=
  List.map_append

theorem mem_dropItem {l : List Item} {u : Url} {x : Item} : x ∈ dropItem l u ↔ x ∈ l ∧ x.row.url ≠ u := by
  simp [dropItem]

theorem iurls_dropItem_sublist (l : List Item) (u : Url) : (iurls (dropItem l u)).Sublist (iurls l) :=
  List.Sublist.map _ List.filter_sublist

theorem mem_iurls {l : List Item} {u : Url} : u ∈ iurls l ↔ ∃ it ∈ l, it.row.url = u := by
  simp [iurls]

theorem split_item {l : List Item} {old : Item} (hn : (iurls l).Nodup) (ho : old ∈ l) :
    ∃ a b, l = a ++ old :: b ∧ ∀ y, y ∈ a ∨ y ∈ b → y.row.url ≠ old.row.url := by
  obtain ⟨a, b, rfl⟩ := List.append_of_mem ho
  refine ⟨a, b, rfl, fun y hy e => ?_⟩
  simp only [iurls, List.map_append, List.map_cons, List.nodup_append, List.nodup_cons] at hn
  rcases hy with hy | hy
  · exact hn.2.2 _ (List.mem_map_of_mem hy) _ List.mem_cons_self e
  · exact hn.2.1.1 (e ▸ List.mem_map_of_mem hy)

theorem putItem_eq {l : List Item} {old new : Item} (hn : (iurls l).Nodup) (ho : old ∈ l)
    (hu : old.row.url = new.row.url) : ∃ a b, l = a ++ old :: b ∧ putItem l new = a ++ new :: b := by
  obtain ⟨a, b, rfl, hne⟩ := split_item hn ho
  have same : ∀ m : List Item, (∀ y ∈ m, y.row.url ≠ old.row.url) → putItem m new = m := fun m hm =>
    (List.map_congr_left fun y hy => if_neg (mt beq_iff_eq.1 (hu ▸ hm y hy))).trans (List.map_id _)
  refine ⟨a, b, rfl, ?_⟩
  rw [putItem, List.map_append, List.map_cons, if_pos (beq_iff_eq.2 hu)]
  exact congr (congrArg _ (same a fun y hy => hne y (.inl hy))) (congrArg _ (same b fun y hy => hne y (.inr hy)))

theorem dropItem_eq {l : List Item} {old : Item} (hn : (iurls l).Nodup) (ho : old ∈ l) :
    ∃ a b, l = a ++ old :: b ∧ dropItem l old.row.url = a ++ b := by
  obtain ⟨a, b, rfl, hne⟩ := split_item hn ho
  have same : ∀ m : List Item, (∀ y ∈ m, y.row.url ≠ old.row.url) → dropItem m old.row.url = m :=
    fun m hm => List.filter_eq_self.2 fun y hy => bne_iff_ne.2 (hm y hy)
  refine ⟨a, b, rfl, ?_⟩
  rw [dropItem, List.filter_append,
    List.filter_cons_of_neg (p := fun x : Item => x.row.url != old.row.url) fun h => bne_iff_ne.1 h rfl]
  exact congr (congrArg _ (same a fun y hy => hne y (.inl hy))) (same b fun y hy => hne y (.inr hy))

/-- What a step does to the state, with as much of its guard as the proofs use.  The bound `conc` on the
items in flight is left out: no theorem depends on it. -/
inductive Tr (c : Cfg) (starts : List Url) (s : St) : Ev → St → Prop
  | checkOut (r : Row) : s.down = false → r ∈ s.table → r.status = .todo ∨ r.status = .error →
      Tr c starts s .checkOut
        { s with table := setStatus s.table r.url .inProgress false,
                 inflight := s.inflight ++ [⟨{ r with status := .inProgress },
                              .running (c.visit { r with status := .inProgress }).requests⟩],
                 outs := s.outs ++ [{ r with status := .inProgress }] }
  | request (r : Row) (v : Url) (rest : List Url) :
      s.down = false → ⟨r, .running (v :: rest)⟩ ∈ s.inflight →
      Tr c starts s (.request r.url)
        { s with inflight := putItem s.inflight ⟨r, .running rest⟩, log := s.log ++ [v] }
  | flush (r : Row) : s.down = false → ⟨r, .running []⟩ ∈ s.inflight →
      Tr c starts s (.flush r.url)
        { s with table := (addMany s.table ((c.visit r).children.map (childRow r))).1,
                 inflight := putItem s.inflight ⟨r, .flushed⟩ }
  | checkIn (r : Row) : s.down = false → ⟨r, .flushed⟩ ∈ s.inflight →
      Tr c starts s (.checkIn r.url)
        { s with table := setStatus s.table r.url (c.visit r).status true,
                 inflight := dropItem s.inflight r.url }
  | crash : Tr c starts s .crash { s with inflight := [], down := true }
  | restart : s.down = true →
      Tr c starts s .restart
        { s with table := (addMany (release s.table) (starts.map startRow)).1, down := false }

variable {c : Cfg} {conc : Nat} {starts : List Url} {s s' : St} {e : Ev}

theorem quiescent_iff : quiescent s = true ↔ s.down = false ∧ s.inflight = [] ∧ nextRow s.table = none := by
  simp [quiescent, and_assoc]

theorem step_tr (h : step c conc starts s e = some s') : Tr c starts s e s' := by
  cases e with
  | checkOut =>
    obtain ⟨hc, h⟩ := Option.ite_none_right_eq_some.mp h
    split at h
    · cases h
    · rename_i r hr; cases h
      exact .checkOut r ((Bool.not_eq_true' _).mp (Bool.and_eq_true_iff.mp hc).1) (nextRow_some hr).1
        (nextRow_some hr).2
  | request u =>
    obtain ⟨hd, h⟩ := Option.ite_none_left_eq_some.mp h
    split at h
    · rename_i r v rest hf; cases h
      obtain ⟨hm, rfl⟩ := findItem_some hf
      exact .request r v rest (Bool.eq_false_iff.2 hd) hm
    · cases h
  | flush u =>
    obtain ⟨hd, h⟩ := Option.ite_none_left_eq_some.mp h
    split at h
    · rename_i r hf; cases h
      obtain ⟨hm, rfl⟩ := findItem_some hf
      exact .flush r (Bool.eq_false_iff.2 hd) hm
    · cases h
  | checkIn u =>
    obtain ⟨hd, h⟩ := Option.ite_none_left_eq_some.mp h
    split at h
    · rename_i r hf; cases h
      obtain ⟨hm, rfl⟩ := findItem_some hf
      exact .checkIn r (Bool.eq_false_iff.2 hd) hm
    · cases h
  | crash =>
    cases (Option.ite_none_left_eq_some.mp h).2; exact .crash
  | restart =>
    obtain ⟨hd, h⟩ := Option.ite_none_right_eq_some.mp h
    cases h; exact .restart hd

theorem Tr.mono (h : Tr c starts s e s') :
    (∀ u ∈ urls s.table, u ∈ urls s'.table) ∧ ∀ v ∈ s.log, v ∈ s'.log := by
  cases h with
  | checkOut | checkIn => exact ⟨fun u hu => by rwa [setStatus_urls], fun _ h => h⟩
  | request => exact ⟨fun _ h => h, fun _ h => List.mem_append_left _ h⟩
  | flush => exact ⟨addMany_urls_old _ _, fun _ h => h⟩
  | crash => exact ⟨fun _ h => h, fun _ h => h⟩
  | restart => exact ⟨fun u hu => addMany_urls_old _ _ u (by rwa [release_urls]), fun _ h => h⟩

end Wpull.Crawl
