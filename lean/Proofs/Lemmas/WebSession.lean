/-
The `WebSession` loop of `Wpull.Request`, for C16 and C18: what a response that is not an error makes of the
session (`processResponse_ok`), the number of requests a session can still issue (`budget`), and the one induction
over the loop (`run_induct`; `session_sent_closed` for the requests sent).
-/
import Wpull.Request
namespace Wpull.Request

@[simp] theorem setCur_loopType (s : Sess) (r : Req) : (s.setCur r).loopType = s.loopType := rfl
@[simp] theorem setCur_numRedirects (s : Sess) (r : Req) : (s.setCur r).numRedirects = s.numRedirects := rfl
@[simp] theorem setCur_cur (s : Sess) (r : Req) : (s.setCur r).cur = some r := rfl

/-- the request `_process_redirect` builds for the next URL `u`: a new one for 301/302/303, the
original replayed with its URL-bound fields reset for 307/308; prepared in origin form -/
def hopReq (cfg : Cfg) (orig : Req) (st : Nat) (u : UrlC) : Req :=
  prepareForSend (if isRepeatCode st then resetUrlBound cfg { orig with url := u } else freshReq cfg u) false

theorem processRedirect_ok {cfg : Cfg} {s s' : Sess} {st : Nat} {hasLoc : Bool} {tgt : Target}
    (h : processRedirect cfg s st hasLoc tgt = .ok s') :
    s.numRedirects ≤ cfg.maxRedirects ∧ hasLoc = true ∧ ∃ u, tgt = .url u ∧
      s' = { s with cur := some (hopReq cfg s.orig st u), aliased := false, loopType := .redirect } := by
  unfold processRedirect at h
  by_cases hmax : s.numRedirects > cfg.maxRedirects
  · rw [if_pos hmax] at h; cases h
  · rw [if_neg hmax] at h
    cases hasLoc
    · cases h
    · cases tgt <;> cases h
      exact ⟨Nat.le_of_not_gt hmax, rfl, _, rfl, rfl⟩

/-- the cookie step that ends `_process_response` -/
def jarStep (cfg : Cfg) (s : Sess) : Sess :=
  match cfg.useJar, s.cur with
  | true, some nr => { s with jarCalls := s.jarCalls + 1 }.setCur (addCookies cfg s.jarCalls nr)
  | _, _ => s

@[simp] theorem jarStep_numRedirects (cfg : Cfg) (s : Sess) : (jarStep cfg s).numRedirects = s.numRedirects := by
  unfold jarStep; split <;> rfl

@[simp] theorem jarStep_loopType (cfg : Cfg) (s : Sess) : (jarStep cfg s).loopType = s.loopType := by
  unfold jarStep; split <;> rfl

@[simp] theorem jarStep_cur_isSome (cfg : Cfg) (s : Sess) : (jarStep cfg s).cur.isSome = s.cur.isSome := by
  unfold jarStep; split <;> simp [*]

theorem processResponse_ok {cfg : Cfg} {s s2 : Sess} {r : Req} {st : Nat} {hasLoc : Bool} {tgt : Target}
    (h : processResponse cfg s r st hasLoc tgt = .ok s2) :
    ∃ s', s2 = jarStep cfg s' ∧
      ((∃ u, isRedirectCode st = true ∧ hasLoc = true ∧ tgt = .url u ∧ s.numRedirects + 1 ≤ cfg.maxRedirects ∧
          s' = { s with numRedirects := s.numRedirects + 1, cur := some (hopReq cfg s.orig st u), aliased := false,
                        loopType := .redirect }) ∨
       (isRedirectCode st = false ∧ (st = 401 ∧ r.password ≠ []) ∧ s.loopType ≠ .authentication ∧
          s' = ({ s with numRedirects := if hasLoc then s.numRedirects + 1 else s.numRedirects,
                         loopType := .authentication,
                         hostsWithAuth := hostnameWithPort r.url :: s.hostsWithAuth }.setCur (addBasicAuth cfg r))) ∨
       s' = { s with numRedirects := if hasLoc then s.numRedirects + 1 else s.numRedirects, cur := none,
                     loopType := .normal }) := by
  unfold processResponse at h
  simp only [] at h
  split at h
  · cases h
  · rename_i s' hmain
    refine ⟨s', ?_, ?_⟩
    · cases hj : cfg.useJar <;> cases hc : s'.cur <;> simp [hj, hc, jarStep] at h ⊢ <;> exact h.symm
    · -- `by_cases` and `rw`, not `split at`: the latter is slow on terms of this size
      by_cases hred : isRedirectCode st = true
      · rw [if_pos hred] at hmain
        obtain ⟨hle, rfl, u, htgt, rfl⟩ := processRedirect_ok hmain
        exact Or.inl ⟨u, hred, rfl, htgt, hle, rfl⟩
      · rw [if_neg hred] at hmain
        by_cases h401 : st = 401 ∧ r.password ≠ []
        · rw [if_pos h401] at hmain
          by_cases hauth : s.loopType = .authentication
          · rw [if_pos hauth] at hmain; cases hmain
            exact Or.inr (Or.inr rfl)
          · rw [if_neg hauth] at hmain; cases hmain
            exact Or.inr (Or.inl ⟨by simpa using hred, h401, hauth, rfl⟩)
        · rw [if_neg h401] at hmain; cases hmain
          exact Or.inr (Or.inr rfl)

/-- authentication retries the session may still make before the next redirect: a 401 is answered
with a retry unless the request it answers was one -/
def armed (s : Sess) : Nat := if s.loopType = .authentication then 0 else 1

@[simp] theorem setCur_armed (s : Sess) (r : Req) : armed (s.setCur r) = armed s := rfl

def redirectsLeft (cfg : Cfg) (s : Sess) : Nat := cfg.maxRedirects - s.numRedirects

@[simp] theorem setCur_redirectsLeft (cfg : Cfg) (s : Sess) (r : Req) :
    redirectsLeft cfg (s.setCur r) = redirectsLeft cfg s := rfl

/-- requests that a session in state `s` can still issue: the pending one and its retry, and two per
redirect still allowed (the hop and its retry) -/
def budget (cfg : Cfg) (s : Sess) : Nat := 1 + armed s + 2 * redirectsLeft cfg s

theorem budget_initSess (cfg : Cfg) (r : Req) : budget cfg (initSess cfg r) < enoughFuel cfg := by
  simp only [budget, armed, redirectsLeft, initSess, enoughFuel, reduceCtorEq, ↓reduceIte]
  omega

theorem turn_cases {cfg : Cfg} {s s2 : Sess} {r : Req} {st : Nat} {hasLoc : Bool} {tgt : Target}
    (h : processResponse cfg s r st hasLoc tgt = .ok s2) (hc : s2.cur.isSome) :
    (isRedirectCode st = true ∧ redirectsLeft cfg s2 < redirectsLeft cfg s ∧ armed s2 = 1) ∨
    (isRedirectCode st = false ∧ armed s = 1 ∧ armed s2 = 0 ∧ redirectsLeft cfg s2 ≤ redirectsLeft cfg s) := by
  obtain ⟨s', rfl, ⟨u, hred, -, -, hmax, rfl⟩ | ⟨hred, -, hne, rfl⟩ | rfl⟩ := processResponse_ok h
  · refine .inl ⟨hred, ?_, ?_⟩
    · simp only [redirectsLeft, jarStep_numRedirects]
      exact Nat.sub_lt_sub_left hmax (Nat.lt_succ_self _)
    · simp [armed]
  · refine .inr ⟨hred, ?_, ?_, ?_⟩
    · simp [armed, hne]
    · simp [armed]
    · simp only [redirectsLeft, jarStep_numRedirects, setCur_numRedirects]
      exact Nat.sub_le_sub_left (by split <;> omega) _
  · simp at hc

theorem budget_turn {cfg : Cfg} {s s2 : Sess} {r : Req} {st : Nat} {hasLoc : Bool} {tgt : Target}
    (h : processResponse cfg s r st hasLoc tgt = .ok s2) (hc : s2.cur.isSome) : budget cfg s2 < budget cfg s := by
  unfold budget
  rcases turn_cases h hc with ⟨-, h1, h2⟩ | ⟨-, h1, h2, h3⟩ <;> omega

/-- Induction over the loop, for a run with enough fuel.  `C s sent fu ar t`: the run that starts in
state `s` with the accumulators `sent, fu, ar` may end with the trace `t`; `t.last` is out of reach.  A run
ends with what was sent before (`stop`) or after one more request (`cut`); `go` carries `C` back over a turn that
goes on. -/
theorem run_induct (cfg : Cfg) (adv : List Req → Reply) {C : Sess → List Req → Nat → Nat → Trace → Prop}
    (stop : ∀ {s sent last fu ar out}, out ≠ .fuel → C s sent fu ar ⟨sent, last, fu, ar, out⟩)
    (cut : ∀ {s q sent last fu ar out}, s.cur = some q → out ≠ .fuel →
      C s sent fu ar ⟨sent ++ [sendPrep cfg s q], last, fu, ar, out⟩)
    (go : ∀ {s q st hasLoc tgt s2 sent fu ar t}, s.cur = some q →
      processResponse cfg (s.setCur (sendPrep cfg s q)) (sendPrep cfg s q) st hasLoc tgt = .ok s2 →
      s2.cur.isSome →
      C s2 (sent ++ [sendPrep cfg s q]) (if isRedirectCode st then fu + 1 else fu)
        (if isRedirectCode st then ar else ar + 1) t →
      C s sent fu ar t) :
    ∀ n s sent last fu ar, budget cfg s < n → C s sent fu ar (run cfg adv n s sent last fu ar) := by
  intro n
  induction n with
  | zero => intro s _ _ _ _ h; omega
  | succ n ih =>
    intro s sent last fu ar hn
    -- the ends of `run` in the order of its text: nothing pending; the gate refuses, fails; `toBytes` fails;
    -- the server fails after, before the request has gone out; `processResponse` fails
    unfold run
    split
    · exact stop (by simp)
    · rename_i q hcur
      split
      · exact stop (by simp)
      · exact stop (by simp)
      · simp only []
        split
        · exact stop (by simp)
        · split
          · exact cut hcur (by simp)
          · exact stop (by simp)
          · rename_i st hasLoc tgt _
            split
            · exact cut hcur (by simp)
            · rename_i s2 hp
              by_cases hsome : s2.cur.isSome
              · have hb : budget cfg s2 < n := Nat.lt_of_lt_of_le (budget_turn hp hsome) (Nat.le_of_lt_succ hn)
                have key := go (sent := sent) (fu := fu) (ar := ar) hcur hp hsome (ih s2 _ st _ _ hb)
                rw [if_pos hsome]
                split <;> simpa [*] using key
              · -- the session is done: the next turn ends the run
                obtain ⟨m, rfl⟩ : ∃ m, n = m + 1 := ⟨n - 1, by unfold budget at hn; omega⟩
                rw [if_neg hsome]
                unfold run
                rw [show s2.cur = none by simpa using hsome]
                exact cut hcur (by simp)

/-- `J` of the requests a state holds: the pending one, and the original, which a 307/308 replays -/
def ReqInv (J : Req → Prop) (s : Sess) : Prop := J s.orig ∧ ∀ q, s.cur = some q → J q

theorem ReqInv.setCur {J : Req → Prop} {s : Sess} {q : Req} (h : ReqInv J s) (hq : J q) : ReqInv J (s.setCur q) := by
  refine ⟨?_, fun q' hq' => by cases hq'; exact hq⟩
  unfold Sess.setCur; split
  · exact hq
  · exact h.1

theorem jarStep_reqInv {J : Req → Prop} {cfg : Cfg} {s : Sess}
    (jar : cfg.useJar = true → ∀ i q, J q → J (addCookies cfg i q)) (h : ReqInv J s) : ReqInv J (jarStep cfg s) := by
  unfold jarStep; split
  · rename_i nr hj hnr
    -- `⟨h.1, h.2⟩`: the state differs from `s` in fields that `ReqInv` does not look at
    exact ReqInv.setCur ⟨h.1, h.2⟩ (jar hj _ nr (h.2 nr hnr))
  · exact h

/-- `run_induct` for the requests sent: `K` for those on the wire, `J` for those a state holds (`ReqInv`).  `K`
must imply `J` because the state keeps the request as it was sent.  (C16: `J` is `Pending`, `K` is `HopOk`.) -/
theorem session_sent_closed {cfg : Cfg} {adv : List Req → Reply} {r : Req} {J K : Req → Prop} (first : J r)
    (send : ∀ s q, J q → K (sendPrep cfg s q)) (keeps : ∀ q, K q → J q)
    (hop : ∀ orig st u, J orig → J (hopReq cfg orig st u))
    (auth : ∀ q, J q → J (addBasicAuth cfg q))
    (jar : cfg.useJar = true → ∀ i q, J q → J (addCookies cfg i q)) :
    ∀ h ∈ (session cfg adv r).sent, K h := by
  have init : ReqInv J (initSess cfg r) := by
    have : J (if cfg.useJar then addCookies cfg 0 r else r) := iteInduction (jar · 0 r first) fun _ => first
    exact ⟨this, fun q hq => by cases hq; exact this⟩
  have more : ∀ {s q sent}, ReqInv J s → s.cur = some q → (∀ h ∈ sent, K h) → ∀ h ∈ sent ++ [sendPrep cfg s q], K h :=
    fun hI hc hs => List.forall_mem_append.2 ⟨hs, List.forall_mem_singleton.2 (send _ _ (hI.2 _ hc))⟩
  have turn : ∀ {s q st hasLoc tgt s2}, ReqInv J s → s.cur = some q →
      processResponse cfg (s.setCur (sendPrep cfg s q)) (sendPrep cfg s q) st hasLoc tgt = .ok s2 → ReqInv J s2 := by
    intro s q st hasLoc tgt s2 hI hc hp
    have hq := keeps _ (send s q (hI.2 q hc))
    have hI' := hI.setCur hq
    obtain ⟨s', rfl, ⟨u, -, -, -, -, rfl⟩ | ⟨-, -, -, rfl⟩ | rfl⟩ := processResponse_ok hp
    all_goals apply jarStep_reqInv jar
    · exact ⟨hI'.1, fun q' hq' => by cases hq'; exact hop _ st u hI'.1⟩
    · exact ReqInv.setCur ⟨hI'.1, hI'.2⟩ (auth _ hq)
    · exact ⟨hI'.1, fun _ hq' => nomatch hq'⟩
  exact run_induct cfg adv (C := fun s sent _ _ t => ReqInv J s → (∀ h ∈ sent, K h) → ∀ h ∈ t.sent, K h)
    (fun _ _ hs => hs)
    (fun hc _ hI hs => more hI hc hs)
    (fun hc hp _ ih hI hs => ih (turn hI hc hp) (more hI hc hs))
    _ _ _ _ _ _ (budget_initSess cfg r) init (fun _ hh => nomatch hh)

end Wpull.Request
