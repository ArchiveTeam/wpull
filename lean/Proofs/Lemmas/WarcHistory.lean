/-
The recorder of `Wpull.Warc` over all histories of session events, for C05 / C07: the clauses of the invariant
`Inv`, what `write_record` and `_start_new_warc_file` do to each, and `Final`, the part that survives `close()`.
-/
import Proofs.Lemmas.Warc
namespace Wpull.Warc

def content (s : St) (f : FName) : Bytes := (fsGet s.fs f).getD []

theorem fsGet_fsSet (fs : List (FName × Bytes)) (f f' : FName) (b : Bytes) :
    fsGet (fsSet fs f b) f' = if f = f' then some b else fsGet fs f' := by
  induction fs with
  | nil => simp [fsSet, fsGet]
  | cons p t ih =>
    by_cases h' : f = f'
    · subst h'; by_cases h : p.1 = f <;> simp [fsSet, fsGet, h, ih]
    · by_cases h : p.1 = f <;> simp [fsSet, fsGet, h, h', ih]

theorem fsSize_eq (fs : List (FName × Bytes)) (f : FName) : fsSize fs f = ((fsGet fs f).getD []).length :=
  Option.getD_map List.length [] _

/-- the bytes `write_record` appended for an entry -/
def encOf (c : Cfg) (e : Env) (en : Entry) : Bytes :=
  if c.compress then e.member en.record.idx (serialize en.record) else serialize en.record

def SliceOk (c : Cfg) (e : Env) (s : St) : Prop :=
  ∀ en ∈ s.log, en.offset + en.size ≤ (content s en.file).length ∧
    ((content s en.file).drop en.offset).take en.size = encOf c e en

def lineOf (c : Cfg) (e : Env) (en : Entry) : Str := cdxLine c e en.file en.record en.size en.offset

def CdxOk (c : Cfg) (e : Env) (s : St) : Prop :=
  s.cdxLines = if c.cdx then (s.log.filter (fun en => wantsCdx en.record)).map (lineOf c e) else []

/-- no logged entry lives in a file a later `_start_new_warc_file` could pick -/
def Fresh (c : Cfg) (s : St) : Prop :=
  ∀ en ∈ s.log, en.file ≠ .metaF ∧ (∀ k, en.file = .numbered k → k ≤ s.seq) ∧ (en.file = .main → c.maxSize = none)

/-- `false`: the main or numbered file, not the `-meta` file -/
def CurOk (c : Cfg) (s : St) : Prop := s.cur = fnameOf c false s.seq

/-- the entry `write_record` logs; `size`: there the growth of the file (`writeRecord_log`) -/
def newEntry (c : Cfg) (e : Env) (s : St) (r : Record) : Entry :=
  let r' := r.set kWarcinfoId s.winfoId
  let raw := serialize r'
  let data := if c.compress then e.member r'.idx raw else raw
  { file := s.cur, offset := (content s s.cur).length, size := data.length, record := r' }

theorem writeRecord_log (c : Cfg) (e : Env) (s : St) (r : Record) :
    (writeRecord c e s r).log = s.log ++ [newEntry c e s r] := by
  simp [writeRecord, newEntry, fsSize_eq, fsGet_fsSet, content]

theorem writeRecord_cdxLines (c : Cfg) (e : Env) (s : St) (r : Record) :
    (writeRecord c e s r).cdxLines = s.cdxLines ++
      (if c.cdx && wantsCdx (newEntry c e s r).record then [lineOf c e (newEntry c e s r)] else []) := by
  simp only [writeRecord, newEntry, lineOf, fsSize_eq, fsGet_fsSet, content]
  split <;> simp [*]

theorem writeRecord_content (c : Cfg) (e : Env) (s : St) (r : Record) (f : FName) :
    content (writeRecord c e s r) f =
      content s f ++ if s.cur = f then encOf c e (newEntry c e s r) else [] := by
  simp only [writeRecord, content, fsGet_fsSet]
  split
  · subst f; rfl
  · simp

theorem forall_mem_writeRecord_log (c : Cfg) (e : Env) (s : St) (r : Record) (P : Entry → Prop) :
    (∀ en ∈ (writeRecord c e s r).log, P en) ↔ (∀ en ∈ s.log, P en) ∧ P (newEntry c e s r) := by
  rw [writeRecord_log, List.forall_mem_append, List.forall_mem_singleton]

@[simp] theorem writeRecord_cur (c : Cfg) (e : Env) (s : St) (r : Record) : (writeRecord c e s r).cur = s.cur := rfl
@[simp] theorem writeRecord_seq (c : Cfg) (e : Env) (s : St) (r : Record) : (writeRecord c e s r).seq = s.seq := rfl
@[simp] theorem writeRecord_winfoId (c : Cfg) (e : Env) (s : St) (r : Record) : (writeRecord c e s r).winfoId = s.winfoId := rfl

theorem writeRecord_slice (c : Cfg) (e : Env) (s : St) (r : Record) (h : SliceOk c e s) :
    SliceOk c e (writeRecord c e s r) := by
  refine (forall_mem_writeRecord_log ..).mpr ⟨fun en hen => ?_, ?_⟩
  · -- an earlier range lies inside what the file held, and the file only grows at its end
    obtain ⟨hb, hs⟩ := h en hen
    rw [writeRecord_content, List.drop_append_of_le_length (by omega), List.take_append_of_le_length (by simp; omega)]
    exact ⟨by simp; omega, hs⟩
  · simp [writeRecord_content, newEntry, encOf]

theorem writeRecord_cdx (c : Cfg) (e : Env) (s : St) (r : Record) (h : CdxOk c e s) :
    CdxOk c e (writeRecord c e s r) := by
  unfold CdxOk at *
  rw [writeRecord_log, writeRecord_cdxLines, h]
  cases c.cdx <;> cases hw : wantsCdx (newEntry c e s r).record <;> simp [hw]

theorem writeRecord_fresh (c : Cfg) (e : Env) (s : St) (r : Record) (hf : Fresh c s) (hc : CurOk c s) :
    Fresh c (writeRecord c e s r) := by
  refine (forall_mem_writeRecord_log ..).mpr ⟨hf, ?_⟩
  rw [show (newEntry c e s r).file = s.cur from rfl, hc, fnameOf]
  cases c.maxSize <;> simp

theorem Fresh.mono {c : Cfg} {s s' : St} (h : Fresh c s) (hl : s'.log = s.log) (hs : s.seq ≤ s'.seq) : Fresh c s' := by
  intro en hen
  have ⟨h1, h2, h3⟩ := h en (hl ▸ hen)
  exact ⟨h1, fun k hk => Nat.le_trans (h2 k hk) hs, h3⟩

theorem skipExisting_ge (fs : List (FName × Bytes)) (fuel seq : Nat) : seq ≤ skipExisting fs fuel seq := by
  induction fuel generalizing seq with
  | zero => exact Nat.le_refl _
  | succ n ih =>
    unfold skipExisting
    split
    · exact Nat.le_trans (Nat.le_succ _) (ih _)
    · exact Nat.le_refl _

theorem startSeq_ge (c : Cfg) (s : St) (m : Bool) : s.seq ≤ startSeq c s m := by
  unfold startSeq; split
  · exact skipExisting_ge _ _ _
  · exact Nat.le_refl _

theorem startSeq_fresh (c : Cfg) (s : St) (m : Bool) (h : c.appending = false) : startSeq c s m = s.seq := by
  simp [startSeq, h]

@[simp] theorem startPre_log (c : Cfg) (e : Env) (s : St) (m : Bool) : (startPre c e s m).log = s.log := rfl
@[simp] theorem startPre_cdx (c : Cfg) (e : Env) (s : St) (m : Bool) : (startPre c e s m).cdxLines = s.cdxLines := rfl
@[simp] theorem startPre_cur (c : Cfg) (e : Env) (s : St) (m : Bool) :
    (startPre c e s m).cur = fnameOf c m (startSeq c s m) := rfl
@[simp] theorem startPre_seq (c : Cfg) (e : Env) (s : St) (m : Bool) : (startPre c e s m).seq = startSeq c s m := rfl

theorem startPre_content (c : Cfg) (e : Env) (s : St) (m : Bool) (f : FName) :
    content (startPre c e s m) f =
      if c.appending = false ∧ fnameOf c m (startSeq c s m) = f then [] else content s f := by
  unfold content startPre
  cases c.appending <;> simp [fsGet_fsSet]
  split <;> simp

/-- what a file held before this life wrote to it -/
def preOf (c : Cfg) (existing : List (FName × Bytes)) (f : FName) : Bytes :=
  if c.appending then (fsGet existing f).getD [] else []

def flatOf (c : Cfg) (e : Env) (log : List Entry) (f : FName) : Bytes :=
  ((log.filter (fun en => en.file = f)).map (encOf c e)).flatten

/-- A file is what it held before followed by the records logged for it.  The guard: without `appending`, a file this
life never wrote keeps bytes that `preOf` calls `[]`. -/
def Concat (c : Cfg) (e : Env) (existing : List (FName × Bytes)) (s : St) : Prop :=
  ∀ f, ((∃ en ∈ s.log, en.file = f) ∨ c.appending = true ∨ f = s.cur) →
    content s f = preOf c existing f ++ flatOf c e s.log f

/-- `Concat` but for the current file: the state a file is started from (what `__init__` finds under the name it
picks, and truncates, is not what this life wrote) -/
def ConcatWeak (c : Cfg) (e : Env) (existing : List (FName × Bytes)) (s : St) : Prop :=
  ∀ f, ((∃ en ∈ s.log, en.file = f) ∨ c.appending = true) →
    content s f = preOf c existing f ++ flatOf c e s.log f

theorem Concat.weak {c e existing s} (h : Concat c e existing s) : ConcatWeak c e existing s :=
  fun f hf => h f (hf.imp_right Or.inl)

theorem flatOf_append (c : Cfg) (e : Env) (log : List Entry) (x : Entry) (f : FName) :
    flatOf c e (log ++ [x]) f = flatOf c e log f ++ if x.file = f then encOf c e x else [] := by
  unfold flatOf
  split <;> simp [*]

theorem writeRecord_concat (c : Cfg) (e : Env) (existing : List (FName × Bytes)) (s : St) (r : Record)
    (h : Concat c e existing s) : Concat c e existing (writeRecord c e s r) := by
  intro f hf
  -- the file and the bytes logged for it grow by the same record
  rw [writeRecord_content, writeRecord_log, flatOf_append, ← List.append_assoc]
  refine congrArg (· ++ _) (h f ?_)
  rcases hf with ⟨en, hen, hef⟩ | hf
  · rw [writeRecord_log] at hen
    rcases List.mem_append.mp hen with ho | hn
    · exact .inl ⟨en, ho, hef⟩
    · obtain rfl := List.mem_singleton.mp hn
      exact .inr (.inr hef.symm)
  · exact .inr hf

theorem filter_file_eq_nil {log : List Entry} {f : FName} (h : ∀ en ∈ log, en.file ≠ f) :
    log.filter (fun en => en.file = f) = [] :=
  List.filter_eq_nil_iff.mpr fun en hen => by simpa using h en hen

theorem startPre_concat (c : Cfg) (e : Env) (existing : List (FName × Bytes)) (s : St) (m : Bool)
    (h : ConcatWeak c e existing s) (hfresh : ∀ en ∈ s.log, en.file ≠ fnameOf c m (startSeq c s m)) :
    Concat c e existing (startPre c e s m) := by
  intro f hf
  rw [startPre_content]
  split <;> rename_i hc
  · -- the truncated file: nothing was there before, nothing is logged for it
    obtain ⟨ha, rfl⟩ := hc
    simp [preOf, flatOf, ha, filter_file_eq_nil hfresh]
  · refine h f (hf.imp_right fun h2 => ?_)
    cases ha : c.appending
    · exact absurd ⟨ha, (h2.resolve_left (by simp [ha])).symm⟩ hc
    · rfl

theorem st0_concatWeak (c : Cfg) (e : Env) (existing : List (FName × Bytes)) : ConcatWeak c e existing (st0 existing) := by
  intro f hf
  rcases hf with ⟨en, hen, _⟩ | ha
  · simp [st0] at hen
  · simp [content, st0, preOf, ha, flatOf]

def headOf (log : List Entry) (f : FName) : Option Entry := (log.filter (fun en => en.file = f)).head?

def tWarcinfo : Str := lit "warcinfo"

def WOk (s : St) : Prop :=
  ∀ en ∈ s.log, ∃ w, headOf s.log en.file = some w ∧ w.record.get? kType = some tWarcinfo ∧
    en.record.get? kWarcinfoId = w.record.get? kId

def WCur (s : St) : Prop :=
  ∃ w, headOf s.log s.cur = some w ∧ w.record.get? kType = some tWarcinfo ∧ w.record.get? kId = some s.winfoId

theorem headOf_append_some {log : List Entry} {f : FName} {w : Entry} (x : Entry) (h : headOf log f = some w) :
    headOf (log ++ [x]) f = some w := by
  unfold headOf at *
  rw [List.filter_append, List.head?_append, h]; rfl

theorem headOf_append_other (log : List Entry) (x : Entry) (f : FName) (h : x.file ≠ f) :
    headOf (log ++ [x]) f = headOf log f := by
  unfold headOf; simp [h]

theorem headOf_append_first (log : List Entry) (x : Entry) (h : ∀ en ∈ log, en.file ≠ x.file) :
    headOf (log ++ [x]) x.file = some x := by
  simp [headOf, filter_file_eq_nil h]

theorem newEntry_winfo (c : Cfg) (e : Env) (s : St) (r : Record) :
    (newEntry c e s r).record.get? kWarcinfoId = some s.winfoId := by
  simp [newEntry, Record.get?_set]

/-- `w` may be the record being written (`_start_new_warc_file`) -/
theorem writeRecord_winfo (c : Cfg) (e : Env) (s : St) (r : Record) {w : Entry} (h : WOk s)
    (hw : headOf (s.log ++ [newEntry c e s r]) s.cur = some w) (ht : w.record.get? kType = some tWarcinfo)
    (hi : w.record.get? kId = some s.winfoId) :
    WOk (writeRecord c e s r) ∧ WCur (writeRecord c e s r) := by
  rw [← writeRecord_log] at hw
  refine ⟨(forall_mem_writeRecord_log ..).mpr ⟨fun en hen => ?_, w, hw, ht, (newEntry_winfo ..).trans hi.symm⟩,
    w, hw, ht, hi⟩
  obtain ⟨w', h1, h2⟩ := h en hen
  exact ⟨w', writeRecord_log .. ▸ headOf_append_some _ h1, h2⟩

theorem warcinfoRecord_type_id (c : Cfg) (e : Env) (n : Nat) :
    (warcinfoRecord c e n).get? kType = some tWarcinfo ∧
    (warcinfoRecord c e n).get? kId = some (recordIdOf (e.uuid n)) := by
  simp [warcinfoRecord, computeChecksum, commonFields, Record.get?_set, normalizeName_ne, tWarcinfo]

/-- the invariant of a recorder between `__init__` and `close()` -/
structure Inv (c : Cfg) (e : Env) (existing : List (FName × Bytes)) (s : St) : Prop where
  slice : SliceOk c e s
  cdx : CdxOk c e s
  fresh : Fresh c s
  cur : CurOk c s
  concat : Concat c e existing s
  w : WOk s
  wcur : WCur s

/-- what still holds after `close()`, which makes the `-meta` file current -/
structure Final (c : Cfg) (e : Env) (existing : List (FName × Bytes)) (s : St) : Prop where
  slice : SliceOk c e s
  cdx : CdxOk c e s
  concat : Concat c e existing s
  w : WOk s

theorem Inv.final {c e existing s} (h : Inv c e existing s) : Final c e existing s := ⟨h.slice, h.cdx, h.concat, h.w⟩

theorem Inv.frame {c : Cfg} {e : Env} {existing : List (FName × Bytes)} {s : St} (h : Inv c e existing s)
    (n : Nat) (sl : List (Nat × Slot)) : Inv c e existing { s with next := n, slots := sl } :=
  ⟨h.slice, h.cdx, h.fresh, h.cur, h.concat, h.w, h.wcur⟩

theorem Final.inv {c e existing s} (h : Final c e existing s) (hf : Fresh c s) (hc : CurOk c s) (hw : WCur s) :
    Inv c e existing s := ⟨h.slice, h.cdx, hf, hc, h.concat, h.w, hw⟩

theorem writeRecord_final (c : Cfg) (e : Env) (existing : List (FName × Bytes)) (s : St) (r : Record)
    (h : Final c e existing s) (hc : WCur s) :
    Final c e existing (writeRecord c e s r) ∧ WCur (writeRecord c e s r) :=
  have ⟨_, hw, ht, hi⟩ := hc
  have ⟨hwok, hwcur⟩ := writeRecord_winfo c e s r h.w (headOf_append_some _ hw) ht hi
  ⟨⟨writeRecord_slice c e s r h.slice, writeRecord_cdx c e s r h.cdx, writeRecord_concat c e existing s r h.concat,
    hwok⟩, hwcur⟩

theorem writeRecord_inv (c : Cfg) (e : Env) (existing : List (FName × Bytes)) (s : St) (r : Record)
    (h : Inv c e existing s) : Inv c e existing (writeRecord c e s r) :=
  have ⟨hF, hW⟩ := writeRecord_final c e existing s r h.final h.wcur
  hF.inv (writeRecord_fresh c e s r h.fresh h.cur) h.cur hW

theorem startFile_final (c : Cfg) (e : Env) (existing : List (FName × Bytes)) (s : St) (m : Bool)
    (hs : SliceOk c e s) (hc : CdxOk c e s) (hcc : ConcatWeak c e existing s) (hw : WOk s)
    (hfresh : ∀ en ∈ s.log, en.file ≠ fnameOf c m (startSeq c s m)) :
    Final c e existing (startFile c e s m) ∧ WCur (startFile c e s m) := by
  have ⟨hwok, hwcur⟩ := writeRecord_winfo c e (startPre c e s m) (warcinfoRecord c e s.next) hw
    (headOf_append_first s.log _ hfresh)
    (by simp [newEntry, Record.get?_set, normalizeName_ne, warcinfoRecord_type_id])
    (by simp [newEntry, Record.get?_set, warcinfoRecord_type_id, startPre])
  refine ⟨⟨writeRecord_slice _ _ _ _ fun en hen => ?_, writeRecord_cdx _ _ _ _ hc,
    writeRecord_concat _ _ _ _ _ (startPre_concat c e existing s m hcc hfresh), hwok⟩, hwcur⟩
  rw [startPre_content, if_neg fun h => hfresh en hen h.2.symm]
  exact hs en hen

theorem startFile_inv (c : Cfg) (e : Env) (existing : List (FName × Bytes)) (s : St)
    (hs : SliceOk c e s) (hc : CdxOk c e s) (hf : Fresh c s) (hcc : ConcatWeak c e existing s) (hw : WOk s)
    (hfresh : ∀ en ∈ s.log, en.file ≠ fnameOf c false (startSeq c s false)) :
    Inv c e existing (startFile c e s false) :=
  have ⟨hF, hW⟩ := startFile_final c e existing s false hs hc hcc hw hfresh
  hF.inv (writeRecord_fresh _ _ _ _ (hf.mono rfl (startSeq_ge c s false)) rfl) rfl hW

theorem initSt_inv (c : Cfg) (e : Env) (existing : List (FName × Bytes)) : Inv c e existing (initSt c e existing) :=
  -- `nofun`: the clauses that quantify over the log, which is empty in `st0`
  startFile_inv c e existing (st0 existing) nofun (by simp [CdxOk, st0]) nofun (st0_concatWeak c e existing) nofun nofun

theorem flushSession_inv (c : Cfg) (e : Env) (existing : List (FName × Bytes)) (s : St) (h : Inv c e existing s) :
    Inv c e existing (flushSession c e s) := by
  unfold flushSession
  split
  · exact h
  · rename_i m hm
    split
    · -- rollover: every numbered file logged so far has a number ≤ `s.seq` < the one picked
      refine startFile_inv c e existing _ h.slice h.cdx (h.fresh.mono rfl (Nat.le_succ _)) h.concat.weak h.w
        fun en hen heq => ?_
      have := (h.fresh en hen).2.1 _ (by simpa [fnameOf, hm] using heq)
      have := startSeq_ge c { s with seq := s.seq + 1 } false
      simp only at this
      omega
    · exact h

theorem step_inv (c : Cfg) (e : Env) (existing : List (FName × Bytes)) (s : St) (op : Op) (h : Inv c e existing s) :
    Inv c e existing (step c e s op) := by
  cases op with
  | closeSession => exact flushSession_inv c e existing s h
  | beginRequest | beginControl => exact h.frame _ _
  | beginResponse | beginTransfer =>
    simp only [step]
    split
    · exact h.frame _ _
    · exact h
  | endRequest =>
    simp only [step]
    split
    · exact (writeRecord_inv _ _ _ _ _ h).frame _ _
    · exact h
  | endResponse | endTransfer | endControl =>
    simp only [step]
    split
    · exact writeRecord_inv _ _ _ _ _ h
    · exact h

theorem run_inv (c : Cfg) (e : Env) (existing : List (FName × Bytes)) (ops : List Op) (s : St)
    (h : Inv c e existing s) : Inv c e existing (run c e s ops) := by
  induction ops generalizing s with
  | nil => exact h
  | cons op t ih => exact ih _ (step_inv c e existing s op h)

theorem closeRecorder_final (c : Cfg) (e : Env) (existing : List (FName × Bytes)) (s : St) (lb : Option Bytes)
    (h : Inv c e existing s) : Final c e existing (closeRecorder c e s lb) := by
  unfold closeRecorder
  cases lb with
  | none => exact h.final
  | some b =>
    have h1 := h.frame (s.next + 1) s.slots
    simp only
    split
    · -- the log record goes to a meta file of its own, which `Fresh` keeps clear of entries
      rename_i hm
      have ⟨hF, hW⟩ := startFile_final c e existing _ true h1.slice h1.cdx h1.concat.weak h1.w fun en hen => by
        cases hms : c.maxSize with
        | none => simp [hms] at hm
        | some m => simpa [fnameOf, hms] using (h1.fresh en hen).1
      exact (writeRecord_final _ _ _ _ _ hF hW).1
    · exact (writeRecord_inv _ _ _ _ _ h1).final

theorem life_final (c : Cfg) (e : Env) (existing : List (FName × Bytes)) (ops : List Op) (lb : Option Bytes) :
    Final c e existing (life c e existing ops lb) :=
  closeRecorder_final c e existing _ lb (run_inv c e existing ops _ (initSt_inv c e existing))

end Wpull.Warc
