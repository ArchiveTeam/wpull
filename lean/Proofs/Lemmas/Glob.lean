/-
Correctness of the robots.txt wildcard matcher (`Wpull.Robots.globMatch`) against a
declarative specification: the rule path split at `*` matches a target iff the target
is  part₀ ++ gap₁ ++ part₁ ++ … ++ gapₙ ++ partₙ (++ anything, unless the rule ends in `$`).
This is the syntax the bundled parser calls GYM2008: the Google-Yahoo-Microsoft extensions of 2008, `*` and `$`.
-/
import Wpull.Robots
import Proofs.Lemmas.Py
namespace Wpull.Robots

theorem findSub_go_add (sep s : Str) (i : Nat) : findSub.go sep s i = (findSub.go sep s 0).map (· + i) := by
  induction s generalizing i with
  | nil => simp only [findSub.go]; split <;> simp
  | cons c t ih =>
    simp only [findSub.go]
    split
    · simp
    · rw [ih (i + 1), ih (0 + 1)]; cases findSub.go sep t 0 <;> simp [Nat.add_comm, Nat.add_left_comm]

theorem afterFirst_nil (q : Str) : afterFirst q [] = if q.isEmpty then some [] else none := by
  simp only [afterFirst, findSub, findSub.go]; split <;> simp_all

theorem afterFirst_cons (q : Str) (c : Nat) (t : Str) :
    afterFirst q (c :: t) = if startsWith (c :: t) q then some ((c :: t).drop q.length) else afterFirst q t := by
  simp only [afterFirst, findSub, findSub.go]
  by_cases h : startsWith (c :: t) q = true
  · simp [h]
  · rw [if_neg h, if_neg h, findSub_go_add]; cases findSub.go q t 0 <;> simp [Nat.add_right_comm]

theorem afterFirst_some {q t r : Str} (h : afterFirst q t = some r) : ∃ g, t = g ++ q ++ r := by
  induction t with
  | nil =>
    rw [afterFirst_nil] at h
    split at h
    · cases h; exact ⟨[], by simp_all⟩
    · cases h
  | cons c t ih =>
    rw [afterFirst_cons] at h
    split at h
    · rename_i hs
      obtain ⟨x, hx⟩ := (startsWith_iff _ _).mp hs
      cases h
      exact ⟨[], by simp [hx]⟩
    · obtain ⟨g, hg⟩ := ih h
      exact ⟨c :: g, by simp [hg]⟩

/-- `afterFirst` takes the leftmost occurrence: what follows any occurrence is a suffix of what it returns -/
theorem afterFirst_append (q g r : Str) : ∃ r0, afterFirst q (g ++ q ++ r) = some r0 ∧ r <:+ r0 := by
  induction g with
  | nil =>
    refine ⟨r, ?_, List.suffix_refl r⟩
    cases hq : q ++ r with
    | nil => simp_all [afterFirst_nil]
    | cons c t =>
      rw [List.nil_append, hq, afterFirst_cons, if_pos ((startsWith_iff _ _).mpr ⟨r, hq.symm⟩), ← hq, List.drop_left]
  | cons a g ih =>
    rw [List.cons_append, List.cons_append, afterFirst_cons]
    split
    · refine ⟨_, rfl, List.suffix_of_suffix_length_le (l₃ := a :: (g ++ q ++ r)) ?_ (List.drop_suffix _ _) ?_⟩
      · exact List.suffix_cons_iff.mpr (Or.inr (List.suffix_append _ _))
      · simp; omega
    · exact ih

/-- the declarative meaning of the parts after the first one -/
def RestSpec (anchored : Bool) : List Str → Str → Prop
  | [], t => anchored = false ∨ t = []
  | q :: qs, t => ∃ g r, t = g ++ q ++ r ∧ RestSpec anchored qs r

/-- the declarative meaning of a whole pattern -/
def GlobSpec (anchored : Bool) : List Str → Str → Prop
  | [], s => anchored = false ∨ s = []
  | p :: ps, s => ∃ t, s = p ++ t ∧ RestSpec anchored ps t

/-- a gap, or the open end of an unanchored pattern, absorbs extra text in front -/
theorem RestSpec.prepend {anchored : Bool} {qs : List Str} {t : Str} (x : Str) (h : anchored = false ∨ qs ≠ [])
    (hr : RestSpec anchored qs t) : RestSpec anchored qs (x ++ t) := by
  cases qs with
  | nil => exact Or.inl (h.resolve_right (· rfl))
  | cons q qs =>
    obtain ⟨g, r, ht, hr⟩ := hr
    exact ⟨x ++ g, r, by simp [ht], hr⟩

/-- except for an anchored last part, `restMatch` looks for the leftmost occurrence of the next part -/
theorem restMatch_cons {anchored : Bool} {qs : List Str} (h : anchored = false ∨ qs ≠ []) (q t : Str) :
    restMatch anchored (q :: qs) t = match afterFirst q t with
      | none => false
      | some t' => restMatch anchored qs t' := by
  cases qs with
  | nil =>
    have := h.resolve_right (· rfl)
    subst this
    cases h : afterFirst q t <;> simp [restMatch, h]
  | cons q' qs => rfl

theorem restMatch_iff (anchored : Bool) (qs : List Str) (t : Str) :
    restMatch anchored qs t = true ↔ RestSpec anchored qs t := by
  induction qs generalizing t with
  | nil => simp [restMatch, RestSpec]
  | cons q qs ih =>
    by_cases h : anchored = false ∨ qs ≠ []
    · rw [restMatch_cons h]
      constructor
      · intro hm
        split at hm
        · cases hm
        · rename_i t' ha
          obtain ⟨g, hg⟩ := afterFirst_some ha
          exact ⟨g, t', hg, (ih t').mp hm⟩
      · rintro ⟨g, r, rfl, hr⟩
        obtain ⟨r0, h0, y, rfl⟩ := afterFirst_append q g r
        rw [h0]
        exact (ih _).mpr (hr.prepend y h)
    · -- the anchored last part must end the text
      obtain ⟨rfl, rfl⟩ : anchored = true ∧ qs = [] := by simpa using h
      simp only [restMatch, RestSpec, if_true, Bool.and_eq_true, beq_iff_eq, Bool.true_eq_false, false_or]
      constructor
      · rintro ⟨hl, hd⟩
        refine ⟨t.take (t.length - q.length), [], ?_, rfl⟩
        rw [List.append_nil]
        conv => lhs; rw [← List.take_append_drop (t.length - q.length) t, hd]
      · rintro ⟨g, r, rfl, rfl⟩
        simp

theorem globMatch_cons_append (anchored : Bool) (p : Str) (ps : List Str) (t : Str) :
    globMatch anchored (p :: ps) (p ++ t) = restMatch anchored ps t := by
  simp only [globMatch, startsWith_append]
  cases ps with
  | nil => cases t <;> simp [restMatch]
  | cons q qs => simp

/-- **the wildcard matcher is exactly the GYM2008 meaning of the pattern** -/
theorem globMatch_iff (anchored : Bool) (parts : List Str) (s : Str) :
    globMatch anchored parts s = true ↔ GlobSpec anchored parts s := by
  cases parts with
  | nil => simp [globMatch, GlobSpec]
  | cons p ps =>
    by_cases hs : startsWith s p = true
    · obtain ⟨t, rfl⟩ := (startsWith_iff s p).mp hs
      simp [globMatch_cons_append, restMatch_iff, GlobSpec]
    · simp only [globMatch, if_neg hs, Bool.false_eq_true, false_iff]
      rintro ⟨t, ht, _⟩
      exact hs ((startsWith_iff s p).mpr ⟨t, ht⟩)

end Wpull.Robots
