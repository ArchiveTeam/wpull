/-
`flatten_path(…, flatten_slashes=True)`: what the segment loop keeps (`GoodSeg`), the shape of the result
(`flattenPath_eq`), and that a text `/` + clean segments is returned unchanged (`flattenPath_of_clean`).
-/
import Wpull.Url
import Proofs.Lemmas.Py
namespace Wpull.Url

/-- the segments `flatten_path(…, flatten_slashes=True)` leaves -/
def CleanSegs (segs : List Str) : Prop :=
  segs ≠ [] ∧ (∀ s ∈ segs, 47 ∉ s ∧ s ≠ [46] ∧ s ≠ [46, 46]) ∧ (∀ s ∈ segs.dropLast, s ≠ [])

/-- a segment that survives the loop: what `CleanSegs` asks of every segment, and not empty -/
def GoodSeg (s : Str) : Prop := (47 ∉ s ∧ s ≠ [46] ∧ s ≠ [46, 46]) ∧ s ≠ []

theorem flattenParts_good (parts acc : List Str)
    (hacc : ∀ s ∈ acc, GoodSeg s) (hp : ∀ s ∈ parts, 47 ∉ s) :
    ∀ s ∈ flattenParts true parts acc, GoodSeg s := by
  induction parts generalizing acc with
  | nil => simpa [flattenParts] using hacc
  | cons p ps ih =>
    obtain ⟨hp0, hps⟩ := List.forall_mem_cons.1 hp
    unfold flattenParts
    split
    · exact ih acc hacc hps
    · rename_i h1
      split
      · rename_i h2
        refine ih _ (List.forall_mem_cons.2 ⟨?_, hacc⟩) hps
        simp at h1 h2
        exact ⟨⟨hp0, h1.1, h2⟩, h1.2⟩
      · apply ih _ _ hps
        intro s hs
        exact hacc s (List.mem_of_mem_tail hs)

theorem flattenParts_nodot (parts acc : List Str)
    (hp : ∀ s ∈ parts, s ≠ [46] ∧ s ≠ [46, 46]) :
    flattenParts true parts acc = acc.reverse ++ parts.filter (fun s => !s.isEmpty) := by
  induction parts generalizing acc with
  | nil => simp [flattenParts]
  | cons p ps ih =>
    obtain ⟨⟨h1, h2⟩, hps⟩ := List.forall_mem_cons.1 hp
    unfold flattenParts
    cases he : p.isEmpty
    · simp [h1, h2, ih _ hps, he]
    · simp [ih _ hps, he]

/-- `path[1:] if path.startswith('/') else path` -/
def stripSlash (p : Str) : Str := if p.head? == some 47 then p.tail else p

theorem flattenPath_eq (p : Str) :
    flattenPath true p =
      if p.isEmpty || p == [47] then [47]
      else joinWith [47] ([] ::
        (if endsWith (stripSlash p) [47] || (flattenParts true (splitC 47 (stripSlash p)) []).isEmpty
         then flattenParts true (splitC 47 (stripSlash p)) [] ++ [[]]
         else flattenParts true (splitC 47 (stripSlash p)) [])) := by
  simp [flattenPath, stripSlash]

theorem flattenPath_of_clean (segs : List Str) (hc : CleanSegs segs) :
    flattenPath true (47 :: joinWith [47] segs) = 47 :: joinWith [47] segs := by
  obtain ⟨hne, hall, hdl⟩ := hc
  by_cases hj : joinWith [47] segs = []
  · rw [hj]; rfl
  have hcond : ((47 :: joinWith [47] segs).isEmpty || (47 :: joinWith [47] segs) == [47]) = false := by
    simpa using hj
  have hs : stripSlash (47 :: joinWith [47] segs) = joinWith [47] segs := rfl
  rw [flattenPath_eq, hcond, hs, splitC_join 47 segs hne (fun s h => (hall s h).1),
    flattenParts_nodot segs [] (fun s h => (hall s h).2)]
  obtain ⟨init, l, rfl⟩ : ∃ init l, segs = init ++ [l] := ⟨_, _, (List.dropLast_concat_getLast hne).symm⟩
  rw [List.dropLast_concat] at hdl
  have hfi : init.filter (fun s => !s.isEmpty) = init :=
    List.filter_eq_self.2 fun s h => by simpa using hdl s h
  rw [endsWith_join_concat init (hall l (by simp)).1, List.reverse_nil, List.nil_append, List.filter_append, hfi]
  -- the loop drops an empty last segment; the test for a trailing slash puts it back
  cases l with
  | nil =>
    simp [joinWith_cons_of_ne_nil]
  | cons x t => simp [joinWith_cons_of_ne_nil]

theorem CleanSegs.no_leading_slash {segs : List Str} (hc : CleanSegs segs) (hne : joinWith [47] segs ≠ []) :
    startsWith (joinWith [47] segs) [47] = false := by
  obtain ⟨_, hall, hinit⟩ := hc
  -- the first segment is not empty (it is not the last, or the whole text would be empty) and holds no `/`
  obtain ⟨s, rest, rfl, hs⟩ : ∃ s rest, segs = s :: rest ∧ s ≠ [] := by
    match segs, hinit, hne with
    | [], _, hne => exact absurd rfl hne
    | [s], _, hne => exact ⟨s, [], rfl, by simpa [joinWith] using hne⟩
    | s :: s2 :: r, hinit, _ => exact ⟨s, _, rfl, hinit s (by simp)⟩
  cases s with
  | nil => exact absurd rfl hs
  | cons x t =>
    have : x ≠ 47 := fun e => (hall (x :: t) (by simp)).1 (by simp [e])
    cases rest <;> simp [joinWith, startsWith, this]

end Wpull.Url
