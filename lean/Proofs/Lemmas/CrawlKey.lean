/-
Third invariant of the crawl system, over the table and the check-out history only: every handed-out
row carries the record (URL, depth, requisite depth) its table row has, and every stored row has a
provenance: a start URL, or a link offered by the visit of a handed-out row.  Each table operation
keeps it by itself.
-/
import Proofs.Lemmas.CrawlInvB
namespace Wpull.Crawl

def keyEq (a b : Row) : Prop := a.url = b.url ∧ a.level = b.level ∧ a.inline = b.inline

theorem keyEq.refl (a : Row) : keyEq a a := ⟨rfl, rfl, rfl⟩
theorem keyEq.symm {a b : Row} (h : keyEq a b) : keyEq b a := ⟨h.1.symm, h.2.1.symm, h.2.2.symm⟩
theorem keyEq.trans {a b d : Row} (h : keyEq a b) (h' : keyEq b d) : keyEq a d :=
  ⟨h.1.trans h'.1, h.2.1.trans h'.2.1, h.2.2.trans h'.2.2⟩

theorem keyEq_childRow {p o : Row} (h : keyEq p o) (k : Child) : keyEq (childRow p k) (childRow o k) := by
  refine ⟨rfl, ?_, ?_⟩
  · simp [childRow, h.2.1]
  · simp [childRow, h.2.2]

variable {c : Cfg} {conc : Nat} {starts : List Url} {crashOk : Bool} {s s' : St} {e : Ev} {t outs : List Row}

def Prov (c : Cfg) (starts : List Url) (outs : List Row) (x : Row) : Prop :=
  (x.url ∈ starts ∧ x.level = 0 ∧ x.inline = none) ∨
    ∃ o ∈ outs, ∃ k ∈ (c.visit o).children, keyEq x (childRow o k)

theorem Prov.congr {x y : Row} (h : keyEq x y) : Prov c starts outs y → Prov c starts outs x
  | .inl hp => .inl ⟨h.1 ▸ hp.1, h.2.1 ▸ hp.2.1, h.2.2 ▸ hp.2.2⟩
  | .inr ⟨o, ho, k, hk, hk'⟩ => .inr ⟨o, ho, k, hk, h.trans hk'⟩

structure InvC (c : Cfg) (starts : List Url) (t outs : List Row) : Prop where
  outKey : ∀ o ∈ outs, ∃ r ∈ t, keyEq r o
  prov : ∀ x ∈ t, Prov c starts outs x

theorem InvC.map (hi : InvC c starts t outs) {f : Row → Row} (hf : ∀ r, keyEq (f r) r) :
    InvC c starts (t.map f) outs where
  outKey o ho :=
    have ⟨r, hr, hk⟩ := hi.outKey o ho
    ⟨f r, List.mem_map_of_mem hr, (hf r).trans hk⟩
  prov x hx := by
    obtain ⟨x0, h0, rfl⟩ := List.mem_map.mp hx
    exact (hi.prov x0 h0).congr (hf x0)

theorem InvC.setStatus (hi : InvC c starts t outs) (u : Url) (st : Status) (i : Bool) :
    InvC c starts (setStatus t u st i) outs :=
  hi.map fun r => by split <;> exact ⟨rfl, rfl, rfl⟩

theorem InvC.release (hi : InvC c starts t outs) : InvC c starts (release t) outs :=
  hi.map fun r => by split <;> exact ⟨rfl, rfl, rfl⟩

theorem InvC.addMany (hi : InvC c starts t outs) {b : List Row} (hb : ∀ x ∈ b, Prov c starts outs x) :
    InvC c starts (addMany t b).1 outs where
  outKey o ho :=
    have ⟨r, hr, hk⟩ := hi.outKey o ho
    ⟨r, addMany_mem_old b hr, hk⟩
  prov x hx := (mem_addMany hx).elim (hi.prov x) fun h => hb x h.1

theorem InvC.out (hi : InvC c starts t outs) {r o : Row} (hr : r ∈ t) (hk : keyEq r o) :
    InvC c starts t (outs ++ [o]) where
  outKey := List.forall_concat hi.outKey ⟨r, hr, hk⟩
  prov x hx := (hi.prov x hx).imp_right fun ⟨o, ho, h⟩ => ⟨o, List.mem_append_left _ ho, h⟩

theorem startRows_prov : ∀ x ∈ starts.map startRow, Prov c starts outs x :=
  List.forall_mem_map.2 fun _ hu => .inl ⟨hu, rfl, rfl⟩

theorem InvC.step (hb : InvB c starts s) (hi : InvC c starts s.table s.outs) (h : Tr c starts s e s') :
    InvC c starts s'.table s'.outs := by
  cases h with
  | checkOut r _ hr _ =>
    exact (hi.setStatus ..).out (setStatus_mem_self .inProgress false hr rfl) ⟨rfl, rfl, rfl⟩
  | request | crash => exact hi
  | flush r _ hm =>
    exact hi.addMany (List.forall_mem_map.2 fun k hk => .inr ⟨r, hb.itemOut _ hm, k, hk, keyEq.refl _⟩)
  | checkIn => exact hi.setStatus ..
  | restart => exact hi.release.addMany startRows_prov

theorem reach_inv (hw : c.WF) (h : Reach c conc starts crashOk s) :
    InvA s ∧ InvB c starts s ∧ InvC c starts s.table s.outs := by
  induction h with
  | init => exact ⟨.init starts, .init c starts,
      (InvC.mk (t := []) (outs := []) (List.forall_mem_nil _) (List.forall_mem_nil _)).addMany startRows_prov⟩
  | step _ _ hs ih =>
    have ⟨ha, hb, hc⟩ := ih
    have ht := step_tr hs
    exact ⟨ha.step hw ht, hb.step ha ht, hc.step hb ht⟩

theorem table_closed (hw : c.WF) {P : Url → Prop} (hS : ∀ u ∈ starts, P u)
    (hK : ∀ r, P r.url → ∀ k ∈ (c.visit r).children, P k.url) (h : Reach c conc starts crashOk s) :
    ∀ u ∈ urls s.table, P u := by
  have add {t b : List Row} (ht : ∀ u ∈ urls t, P u) (hb : ∀ r ∈ b, P r.url) :
      ∀ u ∈ urls (addMany t b).1, P u :=
    List.forall_mem_map.2 fun r hr => (mem_addMany hr).elim (List.forall_mem_map.1 ht r) fun h => hb r h.1
  have hS' : ∀ r ∈ starts.map startRow, P r.url := List.forall_mem_map.2 hS
  -- `InvC.prov` names a parent of every row but no descent to a start URL (sites have cycles): induction over the run
  induction h with
  | init => exact add (List.forall_mem_nil _) hS'
  | @step s s' e hr _ hst ih =>
    cases step_tr hst with
    | checkOut | checkIn => rw [setStatus_urls]; exact ih
    | request | crash => exact ih
    | flush r _ hm =>
      have := ih _ (mem_urls.mpr ⟨r, ((reach_inv hw hr).1.itemRow _ hm).1, rfl⟩)
      exact add ih (List.forall_mem_map.2 (hK r this))
    | restart => exact add (by rw [release_urls]; exact ih) hS'

theorem keyEq_of_out (hw : c.WF) (h : Reach c conc starts crashOk s) {o x : Row} (ho : o ∈ s.outs)
    (hx : x ∈ s.table) (e : o.url = x.url) : keyEq x o := by
  have ⟨ha, _, hc⟩ := reach_inv hw h
  obtain ⟨r, hr, hk⟩ := hc.outKey o ho
  exact row_unique ha.nodup hr hx (hk.1.trans e) ▸ hk

theorem out_of_final_row (hw : c.WF) (h : Reach c conc starts crashOk s) {x : Row} (hx : x ∈ s.table)
    (hfin : x.status = .done ∨ x.status = .skipped) : ∃ o ∈ s.outs, keyEq x o := by
  obtain ⟨o, ho, eo⟩ := (reach_inv hw h).2.1.notTodoOut x hx fun e => by
    rcases hfin with h | h <;> rw [e] at h <;> cases h
  exact ⟨o, ho, keyEq_of_out hw h ho hx eo⟩

end Wpull.Crawl
