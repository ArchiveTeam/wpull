/-
`normalize_ipv4_address`: every result is `IPv4Address(n).compressed` for some `n < 2^32`, and that text —
four octets written by `str`, joined by dots — is read back as `n`.
-/
import Wpull.Url
import Proofs.Lemmas.Port
namespace Wpull.Url

theorem natDec_no_dot (k : Nat) : 46 ∉ natDec k := not_mem_natDec (.inl (by decide)) k

theorem octet_len {k : Nat} (h : k < 256) : 0 < (natDec k).length ∧ (natDec k).length ≤ 3 :=
  ⟨List.length_pos_iff.2 (natDec_digits k).1, natDec_length k 2 (by omega)⟩

/-- `str(k)` has no leading zero, so it is read in base 10 (`0` itself in base 8) -/
theorem parseIpv4Int_natDec {k : Nat} (h : k < 256) : parseIpv4Int (natDec k) = .ok (Int.ofNat k) := by
  rcases Nat.eq_zero_or_pos k with rfl | hk
  · decide
  · obtain ⟨c, t, e, hc⟩ := natDec_head k hk
    have h48 : c ≠ 48 := by omega
    have := pyInt_natDec k (Nat.le_trans (octet_len h).2 (by decide))
    rw [e] at this
    simp [parseIpv4Int, e, startsWith, h48, this]

def quad (a b c d : Nat) : Str :=
  natDec a ++ [46] ++ natDec b ++ [46] ++ natDec c ++ [46] ++ natDec d

theorem ipv4Compressed_quad (n : Nat) :
    ipv4Compressed n = quad (n / 16777216 % 256) (n / 65536 % 256) (n / 256 % 256) (n % 256) := rfl

theorem splitC_quad (a b c d : Nat) : splitC 46 (quad a b c d) = [natDec a, natDec b, natDec c, natDec d] := by
  simp [quad, splitC_append, splitC_of_free (natDec_no_dot _)]

theorem quad_labels {a b c d : Nat} (ha : a < 256) (hb : b < 256) (hc : c < 256) (hd : d < 256) :
    idnaLabelsOk (splitC 46 (quad a b c d)) = true := by
  have := octet_len ha
  have := octet_len hb
  have := octet_len hc
  have := octet_len hd
  simp only [splitC_quad, idnaLabelsOk, Bool.and_eq_true, decide_eq_true_eq]
  omega

theorem normalizeIpv4_quad {a b c d : Nat} (ha : a < 256) (hb : b < 256) (hc : c < 256) (hd : d < 256) :
    normalizeIpv4 (quad a b c d) = ipv4OfInt (Int.ofNat (a * 16777216 + b * 65536 + c * 256 + d)) := by
  have hcnt : (quad a b c d).count 46 = 3 := by
    simp [quad, List.count_eq_zero_of_not_mem (natDec_no_dot _)]
  have hsum : ipv4Sum [natDec a, natDec b, natDec c, natDec d] 0 =
      .ok (Int.ofNat (a * 16777216 + b * 65536 + c * 256 + d)) := by
    simp only [ipv4Sum, parseIpv4Int_natDec ha, parseIpv4Int_natDec hb, parseIpv4Int_natDec hc, parseIpv4Int_natDec hd, Nat.reduceMul,
      Nat.reduceSub, Int.ofNat_eq_natCast]
    apply congrArg Except.ok
    omega
  simp only [normalizeIpv4, hcnt, splitC_quad, hsum, Nat.reduceBEq, Bool.false_eq_true, ↓reduceIte]

theorem ipv4OfInt_nat {n : Nat} (h : n < 4294967296) :
    ipv4OfInt (Int.ofNat n) = .ok (ipv4Compressed n) := by
  have h1 : ¬ ((n : Int) < 0) := by omega
  have h2 : ¬ ((n : Int) > 4294967295) := by omega
  simp [ipv4OfInt, h1, h2]

theorem ipv4OfInt_inv {v : Int} {r : Str} (h : ipv4OfInt v = .ok r) :
    ∃ n, n < 4294967296 ∧ r = ipv4Compressed n := by
  unfold ipv4OfInt at h
  split at h
  · cases h
  · rename_i hc
    simp only [Bool.or_eq_true, decide_eq_true_eq, not_or] at hc
    cases h
    exact ⟨v.toNat, by omega, rfl⟩

theorem normalizeIpv4_ipv4Compressed (n : Nat) (h : n < 4294967296) :
    normalizeIpv4 (ipv4Compressed n) = .ok (ipv4Compressed n) := by
  rw [ipv4Compressed_quad, normalizeIpv4_quad (Nat.mod_lt _ (by decide)) (Nat.mod_lt _ (by decide))
    (Nat.mod_lt _ (by decide)) (Nat.mod_lt _ (by decide)), ← ipv4Compressed_quad, ← ipv4OfInt_nat h]
  apply congrArg (fun m : Nat => ipv4OfInt (Int.ofNat m))
  -- the four octets are the digits of `n` in base 256; `omega` on the quotients themselves is several times dearer
  have e : n % (256 * 256 * 256 * 256) = n := Nat.mod_eq_of_lt h
  rw [Nat.mod_mul, Nat.mod_mul, Nat.mod_mul] at e
  generalize n / 16777216 % 256 = a, n / 65536 % 256 = b, n / 256 % 256 = c, n % 256 = d at e ⊢
  omega

theorem ipv4Compressed_chars (n : Nat) : ∀ c ∈ ipv4Compressed n, c = 46 ∨ (48 ≤ c ∧ c ≤ 57) := by
  intro x hx
  simp only [ipv4Compressed, List.mem_append, List.mem_singleton] at hx
  rcases hx with (((((hx | hx) | hx) | hx) | hx) | hx) | hx
  all_goals first | exact .inl hx | exact .inr ((natDec_digits _).2 x hx)

theorem ipv4Compressed_labels (n : Nat) : idnaLabelsOk (splitC 46 (ipv4Compressed n)) = true :=
  quad_labels (Nat.mod_lt _ (by decide)) (Nat.mod_lt _ (by decide)) (Nat.mod_lt _ (by decide))
    (Nat.mod_lt _ (by decide))

theorem normalizeIpv4_inv {a r : Str} (h : normalizeIpv4 a = .ok r) :
    ∃ n, n < 4294967296 ∧ r = ipv4Compressed n := by
  unfold normalizeIpv4 at h
  simp only at h
  split at h
  · split at h
    · cases h
    · exact ipv4OfInt_inv h
  · split at h
    · split at h
      · cases h
      · exact ipv4OfInt_inv h
    · cases h

end Wpull.Url
