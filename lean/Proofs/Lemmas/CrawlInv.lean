/-
The structural invariant `InvA` of the crawl transition system (the table and the items in flight fit
together) and its preservation by every event, including `crash` and `restart`; the runs `Reach`.
-/
import Proofs.Lemmas.CrawlStep
namespace Wpull.Crawl

/-- the statuses the code ever writes at check-in -/
def Cfg.WF (c : Cfg) : Prop :=
  ∀ r, (c.visit r).status = .done ∨ (c.visit r).status = .skipped ∨ (c.visit r).status = .error

structure InvA (s : St) : Prop where
  nodup : (urls s.table).Nodup
  itemRow : ∀ it ∈ s.inflight, it.row ∈ s.table ∧ it.row.status = .inProgress
  itemsNodup : (iurls s.inflight).Nodup
  progress : s.down = false → ∀ r ∈ s.table, r.status = .inProgress → r.url ∈ iurls s.inflight
  downEmpty : s.down = true → s.inflight = []

variable {c : Cfg} {conc : Nat} {starts : List Url} {s s' : St} {e : Ev}

theorem InvA.init (starts : List Url) : InvA (init starts) where
  nodup := addMany_nodup [] _ .nil
  itemRow := List.forall_mem_nil _
  itemsNodup := .nil
  progress _ r hr hs :=
    absurd hs (startup_no_inProgress (List.forall_mem_nil _) starts r hr)
  downEmpty _ := rfl

theorem InvA.noItem (hi : InvA s) (hd : s.down = true) {P : Item → Prop} : ∀ it ∈ s.inflight, P it := by
  rw [hi.downEmpty hd]; exact List.forall_mem_nil _

theorem InvA.step (hw : c.WF) (hi : InvA s) (h : Tr c starts s e s') : InvA s' := by
  have notDown {α : Prop} (hd : s.down = false) (h : s.down = true) : α :=
    absurd (hd.symm.trans h) Bool.false_ne_true
  cases h with
  | checkOut r hd hr hs =>
    -- the row handed out is to-do or error, so no item in flight has it
    have hnot : r.url ∉ iurls s.inflight := fun hc => by
      obtain ⟨it, hit, e⟩ := mem_iurls.mp hc
      have h1 := hi.itemRow it hit
      have h3 : r.status = .inProgress := row_unique hi.nodup h1.1 hr e ▸ h1.2
      rcases hs with h | h <;> rw [h] at h3 <;> cases h3
    exact {
      nodup := by rw [setStatus_urls]; exact hi.nodup
      itemRow := List.forall_concat
        (fun it hit => ⟨setStatus_mem_other _ _ (hi.itemRow it hit).1 fun e =>
          hnot (mem_iurls.mpr ⟨it, hit, e⟩), (hi.itemRow it hit).2⟩)
        ⟨setStatus_mem_self .inProgress false hr rfl, rfl⟩
      itemsNodup := by rw [iurls_concat]; exact List.nodup_concat hi.itemsNodup hnot
      progress := fun _ x hx hs => by
        rw [iurls_concat]
        rcases mem_setStatus hx with ⟨hx, _⟩ | ⟨r0, _, hu, rfl⟩
        · exact List.mem_append_left _ (hi.progress hd x hx hs)
        · exact hu ▸ List.mem_concat_self
      downEmpty := notDown hd }
  | request r v rest hd hm =>
    have hrow : r ∈ s.table ∧ r.status = .inProgress := hi.itemRow _ hm
    exact {
      nodup := hi.nodup
      itemRow := forall_putItem hi.itemRow hrow
      itemsNodup := by rw [iurls_putItem]; exact hi.itemsNodup
      progress := fun _ x hx hs => by rw [iurls_putItem]; exact hi.progress hd x hx hs
      downEmpty := notDown hd }
  | flush r hd hm =>
    have hrow : r ∈ s.table ∧ r.status = .inProgress := hi.itemRow _ hm
    exact {
      nodup := addMany_nodup _ _ hi.nodup
      itemRow := forall_putItem
        (fun it hit => ⟨addMany_mem_old _ (hi.itemRow it hit).1, (hi.itemRow it hit).2⟩)
        ⟨addMany_mem_old _ hrow.1, hrow.2⟩
      itemsNodup := by rw [iurls_putItem]; exact hi.itemsNodup
      progress := fun _ x hx hs => by
        rw [iurls_putItem]
        rcases mem_addMany hx with hx | hx
        · exact hi.progress hd x hx hs
        · rw [childRows_todo r _ x hx.1] at hs; cases hs
      downEmpty := notDown hd }
  | checkIn r hd hm =>
    exact {
      nodup := by rw [setStatus_urls]; exact hi.nodup
      itemRow := fun it hit =>
        have hit' := mem_dropItem.mp hit
        ⟨setStatus_mem_other _ _ (hi.itemRow it hit'.1).1 hit'.2, (hi.itemRow it hit'.1).2⟩
      itemsNodup := hi.itemsNodup.sublist (iurls_dropItem_sublist _ _)
      progress := fun _ x hx hs => by
        rcases mem_setStatus hx with ⟨hx, hne⟩ | ⟨r0, _, _, rfl⟩
        · obtain ⟨it, hit, e⟩ := mem_iurls.mp (hi.progress hd x hx hs)
          exact mem_iurls.mpr ⟨it, mem_dropItem.mpr ⟨hit, e ▸ hne⟩, e⟩
        · rcases hw r with h | h | h <;> rw [h] at hs <;> cases hs
      downEmpty := notDown hd }
  | crash =>
    exact ⟨hi.nodup, List.forall_mem_nil _, .nil, fun h => Bool.noConfusion h, fun _ => rfl⟩
  | restart hd =>
    exact {
      nodup := addMany_nodup _ _ (by rw [release_urls]; exact hi.nodup)
      itemRow := hi.noItem hd
      itemsNodup := by rw [hi.downEmpty hd]; exact .nil
      progress := fun _ x hx hs => absurd hs (startup_no_inProgress (release_no_inProgress _) starts x hx)
      downEmpty := fun h => Bool.noConfusion h }

/-- states reached from `init starts`; `crashOk = false` rules out `crash` and `restart` -/
inductive Reach (c : Cfg) (conc : Nat) (starts : List Url) (crashOk : Bool) : St → Prop
  | init : Reach c conc starts crashOk (init starts)
  | step {s s' : St} {e : Ev} : Reach c conc starts crashOk s →
      (crashOk = false → e ≠ .crash ∧ e ≠ .restart) →
      step c conc starts s e = some s' → Reach c conc starts crashOk s'

theorem Reach.weaken {k : Bool} (h : Reach c conc starts false s) : Reach c conc starts k s := by
  induction h with
  | init => exact .init
  | step _ hk hs ih => exact .step ih (fun _ => hk rfl) hs

theorem reach_up (h : Reach c conc starts false s) : s.down = false := by
  induction h with
  | init => rfl
  | step _ hk hs ih =>
    cases step_tr hs with
    | crash => exact absurd rfl (hk rfl).1
    | restart => exact absurd rfl (hk rfl).2
    | _ => exact ih

end Wpull.Crawl
