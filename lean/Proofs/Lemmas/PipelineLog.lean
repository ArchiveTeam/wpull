/- C13 helper lemmas: the (task, item, start/end) log against the phase of every item. -/
import Proofs.Lemmas.PipelineInv
namespace Wpull.Pipeline

/-- the events of item `i`, in log order, as (task, end?) pairs -/
def proj (i : Nat) (log : List Ev) : List (Nat × Bool) :=
  (log.filter (fun e => e.item == i)).map (fun e => (e.task, e.fin))

/-- start and end of tasks `0 … k-1`, in order, once each -/
def pre : Nat → List (Nat × Bool)
  | 0 => []
  | k + 1 => pre k ++ [(k, false), (k, true)]

/-- what the log must hold for an item in phase `p` (pipeline with tasks `0..K`) -/
def expected (K : Nat) : Ph → List (Nat × Bool)
  | .held => []
  | .queued => []
  | .run k => pre k ++ [(k, false)]
  | .done => pre (K + 1)
  | .failed k => pre k ++ [(k, false)]

def phaseOk (K : Nat) : Ph → Prop
  | .run k => k ≤ K
  | .failed k => k ≤ K
  | _ => True

theorem pre_prefix (k d : Nat) : pre k <+: pre (k + d) := by
  induction d with
  | zero => exact List.prefix_refl _
  | succ d ih =>
    exact ih.trans (List.prefix_append _ _)

theorem expected_prefix {K : Nat} {p : Ph} (h : phaseOk K p) : expected K p <+: pre (K + 1) := by
  have hrun : ∀ k, k ≤ K → pre k ++ [(k, false)] <+: pre (K + 1) := by
    intro k hk
    have h1 : pre k ++ [(k, false)] <+: pre (k + 1) := (List.prefix_append_right_inj _).mpr ⟨[(k, true)], rfl⟩
    have h2 := pre_prefix (k + 1) (K - k)
    rw [show k + 1 + (K - k) = K + 1 by omega] at h2
    exact h1.trans h2
  cases p with
  | held | queued => exact List.nil_prefix
  | run k | failed k => exact hrun k h
  | done => exact List.prefix_refl _

structure InvL (K : Nat) (items : List Ph) (log : List Ev) : Prop where
  hin : ∀ i p, items[i]? = some p → proj i log = expected K p ∧ phaseOk K p
  hout : ∀ i, items.length ≤ i → proj i log = []

theorem proj_append (i : Nat) (l1 l2 : List Ev) : proj i (l1 ++ l2) = proj i l1 ++ proj i l2 := by
  simp [proj]

theorem proj_single_same (i t : Nat) (b : Bool) : proj i [Ev.mk t i b] = [(t, b)] := by
  simp [proj]

theorem proj_single_other {i j : Nat} (t : Nat) (b : Bool) (h : j ≠ i) : proj i [Ev.mk t j b] = [] := by
  simp [proj, h]

theorem invL_init (K : Nat) : InvL K [] [] := by
  constructor <;> simp [proj]

theorem invL_append {K : Nat} {items : List Ph} {log : List Ev} (h : InvL K items log) (p : Ph)
    (hp : p = .held ∨ p = .queued) : InvL K (items ++ [p]) log := by
  obtain ⟨h1, h2⟩ := h
  constructor
  · intro i q hq
    -- a position of `items ++ [p]` is in `items` or holds `p`
    rw [List.getElem?_append] at hq
    split at hq
    · exact h1 i q hq
    · cases List.mem_singleton.mp (List.mem_of_getElem? hq)
      rw [h2 i (by omega)]
      rcases hp with rfl | rfl <;> simp [expected, phaseOk]
  · intro i hi
    simp at hi
    exact h2 i (by omega)

/-- replacing the phase of item `j` and appending events of item `j` only -/
theorem invL_set {K : Nat} {items : List Ph} {log : List Ev} (h : InvL K items log) {j : Nat} {p q : Ph}
    (hj : items[j]? = some p) (evs : List Ev) (hev : ∀ e ∈ evs, e.item = j)
    (hexp : expected K p ++ evs.map (fun e => (e.task, e.fin)) = expected K q) (hok : phaseOk K q) :
    InvL K (items.set j q) (log ++ evs) := by
  obtain ⟨h1, h2⟩ := h
  have hproj_j : proj j evs = evs.map (fun e => (e.task, e.fin)) := by
    simp only [proj]
    congr 1
    apply List.filter_eq_self.mpr
    intro e he; simp [hev e he]
  have hproj_o : ∀ i, i ≠ j → proj i evs = [] := by
    intro i hi
    simp only [proj, List.map_eq_nil_iff, List.filter_eq_nil_iff]
    intro e he; simp [hev e he]; omega
  constructor
  · intro i r hr
    by_cases hij : i = j
    · subst hij
      rw [List.getElem?_set_self (List.getElem?_eq_some_iff.mp hj).1] at hr
      cases hr
      rw [proj_append, (h1 i p hj).1, hproj_j, hexp]
      exact ⟨rfl, hok⟩
    · rw [List.getElem?_set_ne (by omega)] at hr
      rw [proj_append, hproj_o i hij, List.append_nil]
      exact h1 i r hr
  · intro i hi
    simp at hi
    have hij : i ≠ j := fun e => by have := (List.getElem?_eq_some_iff.mp (e ▸ hj)).1; omega
    rw [proj_append, hproj_o i hij, h2 i hi]; rfl


theorem invL_start {K : Nat} {items : List Ph} {log : List Ev} (h : InvL K items log) {j : Nat}
    (hj : items[j]? = some .queued) : InvL K (items.set j (.run 0)) (log ++ [Ev.mk 0 j false]) :=
  invL_set h hj [Ev.mk 0 j false] (by simp) (by simp [expected, pre]) (by simp [phaseOk])

theorem invL_next {K : Nat} {items : List Ph} {log : List Ev} (h : InvL K items log) {j k : Nat}
    (hj : items[j]? = some (.run k)) (hk : k < K) :
    InvL K (items.set j (.run (k + 1))) (log ++ [Ev.mk k j true] ++ [Ev.mk (k + 1) j false]) := by
  rw [List.append_assoc]
  exact invL_set h hj [Ev.mk k j true, Ev.mk (k + 1) j false] (by simp) (by simp [expected, pre])
    (by simp [phaseOk]; omega)

theorem invL_last {K : Nat} {items : List Ph} {log : List Ev} (h : InvL K items log) {j k : Nat}
    (hj : items[j]? = some (.run k)) (hk : ¬ k < K) :
    InvL K (items.set j .done) (log ++ [Ev.mk k j true]) := by
  have hle : k ≤ K := (h.hin j _ hj).2
  have : k = K := by omega
  subst this
  exact invL_set h hj [Ev.mk k j true] (by simp) (by simp [expected, pre]) (by simp [phaseOk])

/-- a change of phase that logs nothing and expects the same log -/
theorem invL_quiet {K : Nat} {items : List Ph} {log : List Ev} (h : InvL K items log) {j : Nat} {p q : Ph}
    (hj : items[j]? = some p) (hexp : expected K p = expected K q) (hok : phaseOk K q) : InvL K (items.set j q) log := by
  simpa using invL_set h hj [] (by simp) (by simpa using hexp) hok

def InvLs (c : Cfg) (s : St) : Prop := InvL c.K s.items s.log

theorem invL_getw {c : Cfg} {s s' : St} (hn : InvN s) (h : InvLs c s) (hs : stepGetw s = some s') : InvLs c s' := by
  cases stepGetw_shape hs with
  | pill => exact h
  | item _ _ hqi => exact invL_start h (hn.hq _ hqi)
  | park => exact h

theorem invL_task {first : Bool} {c : Cfg} {s s' : St} {i : Nat} {ok : Bool} (hi : Inv first c s) (h : InvLs c s)
    (hs : stepTask c s i ok = some s') : InvLs c s' := by
  cases stepTask_shape hs with
  | next hrun hk => exact invL_next h hrun hk
  | last hrun hk hg => exact invL_getw (inv_midSt hi hrun).ctl (invL_last h hrun hk) hg
  | fail hrun => exact invL_quiet h hrun rfl (h.hin i _ hrun).2

@[simp] theorem doStop_items (c : Cfg) (s : St) : (doStop c s).items = s.items := (sameHist_doStop c s).items
@[simp] theorem doStop_log (c : Cfg) (s : St) : (doStop c s).log = s.log := (sameHist_doStop c s).log
@[simp] theorem prodGone_items (s : St) : (prodGone s).items = s.items := rfl
@[simp] theorem prodGone_log (s : St) : (prodGone s).log = s.log := rfl
@[simp] theorem prodFinish_items (c : Cfg) (s : St) : (prodFinish c s).items = s.items := by simp [prodFinish]
@[simp] theorem prodFinish_log (c : Cfg) (s : St) : (prodFinish c s).log = s.log := by simp [prodFinish]
@[simp] theorem prodLoop_items (c : Cfg) (s : St) : (prodLoop c s).items = s.items := by
  simp only [prodLoop]; split <;> simp
@[simp] theorem prodLoop_log (c : Cfg) (s : St) : (prodLoop c s).log = s.log := by
  simp only [prodLoop]; split <;> simp
@[simp] theorem putNow_items (s : St) (i : Nat) : (putNow s i).items = s.items.set i .queued := rfl
@[simp] theorem putNow_log (s : St) (i : Nat) : (putNow s i).log = s.log := rfl

theorem invL_prod {c : Cfg} (hfx : c.fx = Fix.all) {s s' : St} (hn : InvN s) (h : InvLs c s)
    (hs : stepProd c s = some s') : InvLs c s' := by
  have hheld := hn.hheld
  simp only [InvLs] at *
  -- the item just taken is appended as held or, where `put_item` goes through, as queued; after a wake-up the held one is queued
  have hsh := stepProd_shape hfx hs
  generalize hp : s.prod = pc at hsh
  cases hsh with
  | put | putFinish | putStop =>
    simpa [set_last, stopSt, prodGone, putNow, wakeGetters] using invL_append h _ (Or.inr rfl)
  | putBlocked => exact invL_append h _ (Or.inl rfl)
  | reput | reputFinish | reputStop =>
    simpa [stopSt, prodGone, putNow, wakeGetters] using invL_quiet (q := .queued) h (hheld true hp) rfl trivial
  | _ => exact h

theorem invL_step {first : Bool} {c : Cfg} (hfx : c.fx = Fix.all) {s s' : St} {a : Act} (hi : Inv first c s)
    (h : InvLs c s) (hs : step c s a = some s') : InvLs c s' := by
  cases a with
  | prod => exact invL_prod hfx hi.ctl h hs
  | main => have := sameHist_main hfx hs; simp only [InvLs, this.items, this.log]; exact h
  | getw => exact invL_getw hi.ctl h hs
  | task i ok => exact invL_task hi h hs
  | stop => have := sameHist_stop hs; simp only [InvLs, this.items, this.log]; exact h
  | setConc n => have := sameHist_setConc hs; simp only [InvLs, this.items, this.log]; exact h

end Wpull.Pipeline
