/-
Single records of `Wpull.Warc`, for C05 / C07: where the scans for the end of the HTTP header stop; a field read
through a chain of `set`s; `decimal`, `utf8`, `strip`; a strict reader of one WARC record (a specification, it
mirrors no wpull code) and what it does on the lines `pairsToStr` writes.
-/
import Wpull.Warc
import Proofs.Lemmas.Py
namespace Wpull.Warc

/-- a line as `readline` returns it -/
def IsLine (l : Bytes) : Prop := ∃ c, l = c ++ [10] ∧ 10 ∉ c

def IsBlank (l : Bytes) : Prop := l = [10] ∨ l = [13, 10]

/-- a header block as `Stream.read_response` accepts it -/
structure WireHeader (hdr : Bytes) : Prop where
  ex : ∃ (lines : List Bytes) (blank : Bytes), hdr = lines.flatten ++ blank ∧ lines ≠ [] ∧
    (∀ l ∈ lines, IsLine l ∧ ¬ IsBlank l) ∧ IsBlank blank

/-- for concrete headers: the side conditions are one decidable conjunction -/
theorem WireHeader.of_lines (cs : List Bytes) (blank : Bytes) {hdr : Bytes}
    (h : hdr = (cs.map (· ++ [10])).flatten ++ blank)
    (hc : cs ≠ [] ∧ (∀ c ∈ cs, 10 ∉ c ∧ c ≠ [] ∧ c ≠ [13]) ∧ (blank = [10] ∨ blank = [13, 10])) :
    WireHeader hdr := by
  refine ⟨_, blank, h, by simpa using hc.1, fun l hl => ?_, hc.2.2⟩
  obtain ⟨c, hm, rfl⟩ := List.mem_map.mp hl
  obtain ⟨h10, hne, h13⟩ := hc.2.1 c hm
  refine ⟨⟨c, rfl, h10⟩, fun hb => ?_⟩
  rcases hb with hb | hb
  · exact hne (by simpa using hb)
  · exact h13 (List.append_cancel_right (bs := [10]) hb)

theorem scanOpt_false (c rest : Bytes) (h : 10 ∉ c) :
    scanOpt false (c ++ 10 :: rest) = (scanOpt true rest).map (· + (c.length + 1)) := by
  induction c with
  | nil => simp [scanOpt]
  | cons a t ih =>
    obtain ⟨ha, ht⟩ := List.ne_and_not_mem_of_not_mem_cons h
    simp only [List.cons_append, scanOpt, ha.symm, if_false, Bool.false_and, ih ht]
    cases scanOpt true rest with
    | none => simp
    | some n => simp; omega

theorem scanOpt_line (l rest : Bytes) (hl : IsLine l) (hb : ¬ IsBlank l) (start : Bool) :
    scanOpt start (l ++ rest) = (scanOpt true rest).map (· + l.length) := by
  obtain ⟨c, rfl, hc⟩ := hl
  cases c with
  | nil => exact absurd (Or.inl rfl) hb
  | cons a t =>
    obtain ⟨ha, ht⟩ := List.ne_and_not_mem_of_not_mem_cons hc
    -- a CR directly before the LF would make the line blank
    have hcr : (a == 13 && (t ++ 10 :: rest).head? == some 10) = false := by
      cases t with
      | nil => simpa [IsBlank] using hb
      | cons b t' => have : ¬ b = 10 := fun e => ht (by simp [e]); simp [this]
    have e : (a :: t ++ [10]) ++ rest = a :: (t ++ 10 :: rest) := by simp
    simp only [e, scanOpt, ha.symm, Bool.and_assoc, hcr, scanOpt_false t rest ht]
    cases scanOpt true rest with
    | none => simp
    | some n => simp; omega

theorem scanOpt_lines (lines : List Bytes) (blank rest : Bytes)
    (hl : ∀ l ∈ lines, IsLine l ∧ ¬ IsBlank l) (hb : IsBlank blank) (start : Bool) (hs : start = true ∨ lines ≠ []) :
    scanOpt start (lines.flatten ++ blank ++ rest) = some (lines.flatten ++ blank).length := by
  induction lines generalizing start with
  | nil =>
    obtain rfl : start = true := by simpa using hs
    rcases hb with rfl | rfl <;> simp [scanOpt]
  | cons l t ih =>
    have h1 := hl l (by simp)
    simp only [List.flatten_cons, List.append_assoc] at ih ⊢
    rw [scanOpt_line l _ h1.1 h1.2 start, ih (fun x hx => hl x (by simp [hx])) true (.inl rfl)]
    simp; omega

/-- `start = true`: the line loop of `_find_payload_offset`; `start = false`: the regular expression of
`get_http_header` -/
theorem scanOpt_wire (hdr rest : Bytes) (h : WireHeader hdr) (start : Bool) :
    scanOpt start (hdr ++ rest) = some hdr.length := by
  obtain ⟨lines, blank, rfl, hne, hl, hb⟩ := h.ex
  exact scanOpt_lines lines blank rest hl hb start (.inr hne)

theorem httpHeaderBytes_wire (hdr body : Bytes) (h : WireHeader hdr) : httpHeaderBytes (hdr ++ body) = some hdr := by
  have h2 := scanOpt_wire hdr [] h false
  rw [List.append_nil] at h2
  simp [httpHeaderBytes, reHeaderEnd, payloadOffset, scanOpt_wire hdr body h, h2]

theorem NVMap.get?_setItem (m : NVMap) (k k' v : Str) :
    (m.setItem k v).get? k' = if k = k' then some v else m.get? k' := by
  induction m with
  | nil => simp [NVMap.setItem, NVMap.get?]
  | cons p t ih =>
    by_cases h' : k = k'
    · subst h'; by_cases h : p.1 = k <;> simp [NVMap.setItem, NVMap.get?, h, ih]
    · by_cases h : p.1 = k <;> simp [NVMap.setItem, NVMap.get?, h, h', ih]

theorem Record.get?_set (r : Record) (k k' v : Str) :
    (r.set k v).get? k' =
      if normalizeName nameOverrides k = normalizeName nameOverrides k' then some v else r.get? k' :=
  NVMap.get?_setItem ..

@[simp] theorem Record.set_block (r : Record) (k v : Str) : (r.set k v).block = r.block := rfl
@[simp] theorem Record.set_idx (r : Record) (k v : Str) : (r.set k v).idx = r.idx := rfl

/- With these two, `simp` reads the fields of `{ r with block := b }` as those of `r`. -/
@[simp] theorem Record.get?_mk (i : Nat) (f : NVMap) (b : Bytes) (k : Str) :
    Record.get? ⟨i, f, b⟩ k = f.get? (normalizeName nameOverrides k) := rfl
@[simp] theorem Record.fields_get? (r : Record) (k : Str) :
    r.fields.get? (normalizeName nameOverrides k) = r.get? k := rfl

/-- Position of a normalised field name among those the recorder sets.  With `Record.get?_set`, `fieldNo_table` and
`normalizeName_ne`, `simp` reads a field through any chain of `set`s: the side condition becomes an inequality of
numerals. -/
def fieldNo (k : Str) : Nat :=
  ([kType, kCType, kDate, kId, kLen, kBlockDigest, kPayloadDigest, kWarcinfoId, kUri, kIp, kConcurrent,
    kRefersTo, kProfile, kTruncated].map (normalizeName nameOverrides)).idxOf (normalizeName nameOverrides k)

/-- the recorder's field names stay pairwise distinct under `normalize_name` -/
@[simp] theorem fieldNo_table :
    fieldNo kType = 0 ∧ fieldNo kCType = 1 ∧ fieldNo kDate = 2 ∧ fieldNo kId = 3 ∧ fieldNo kLen = 4 ∧
    fieldNo kBlockDigest = 5 ∧ fieldNo kPayloadDigest = 6 ∧ fieldNo kWarcinfoId = 7 ∧ fieldNo kUri = 8 ∧
    fieldNo kIp = 9 ∧ fieldNo kConcurrent = 10 ∧ fieldNo kRefersTo = 11 ∧ fieldNo kProfile = 12 ∧
    fieldNo kTruncated = 13 := by decide +kernel

theorem normalizeName_ne {k k' : Str} (h : fieldNo k ≠ fieldNo k') :
    normalizeName nameOverrides k ≠ normalizeName nameOverrides k' :=
  fun e => h (congrArg (List.idxOf · _) e)

theorem decimal_eq (n : Nat) : decimal n = natDec n := by
  have : ∀ f n acc, decAux f n acc = natDecAux f n acc := by
    intro f
    induction f with
    | zero => intros; rfl
    | succ f ih => intros; simp [decAux, natDecAux, ih]
  exact this _ _ _

theorem decimal_digits (n : Nat) : ∀ d ∈ decimal n, isAsciiDigit d = true := fun d hd => by
  simpa [isAsciiDigit] using (natDec_digits n).2 d (decimal_eq n ▸ hd)

theorem parseDec_decimal (n : Nat) : parseDec? (decimal n) = some n := by
  have h1 : decimal n ≠ [] := decimal_eq n ▸ (natDec_digits n).1
  have h2 : (decimal n).all isAsciiDigit = true := List.all_eq_true.mpr (decimal_digits n)
  simp only [parseDec?, h1, h2, ne_eq, not_false_eq_true, and_self, if_true]
  exact congrArg some (decimal_eq n ▸ natDec_value n)

theorem decimal_no_crlf (n : Nat) : 13 ∉ decimal n ∧ 10 ∉ decimal n :=
  decimal_eq n ▸ ⟨not_mem_natDec (.inl (by decide)) n, not_mem_natDec (.inl (by decide)) n⟩

theorem utf8_append (a b : Str) : utf8 (a ++ b) = utf8 a ++ utf8 b := by simp [utf8]

theorem utf8_cons (c : Nat) (t : Str) : utf8 (c :: t) = utf8c c ++ utf8 t := rfl

theorem utf8c_ne_nil (c : Nat) : utf8c c ≠ [] := by
  unfold utf8c; repeat' split
  all_goals simp

theorem utf8_eq_nil (s : Str) : utf8 s = [] ↔ s = [] := by
  cases s <;> simp [utf8, utf8c_ne_nil]

theorem utf8c_mem_lt (c x : Nat) (hx : x < 128) : x ∈ utf8c c ↔ c = x := by
  unfold utf8c
  repeat' split
  all_goals simp; omega

theorem utf8_mem_lt (s : Str) (x : Nat) (hx : x < 128) : x ∈ utf8 s ↔ x ∈ s := by
  simp [utf8, utf8c_mem_lt _ x hx]

theorem utf8_head_lt (n : Str) (x : Nat) (hx : x < 128) (h : (utf8 n).head? = some x) : n.head? = some x := by
  cases n with
  | nil => simp [utf8] at h
  | cons c t =>
    obtain ⟨a, r, hu⟩ := List.exists_cons_of_ne_nil (utf8c_ne_nil c)
    have : x ∈ utf8c c := by simp_all [utf8_cons]
    simp [(utf8c_mem_lt c x hx).mp this]

theorem utf8_ascii (s : Str) (h : ∀ c ∈ s, c < 128) : utf8 s = s := by
  induction s with
  | nil => rfl
  | cons c t ih =>
    obtain ⟨hc, ht⟩ := List.forall_mem_cons.mp h
    simp [utf8_cons, ih ht, utf8c, hc]

/-- a field name that can stand in a header line -/
structure StrNameOk (n : Str) : Prop where
  ne : n ≠ []
  colon : 58 ∉ n
  cr : 13 ∉ n
  lf : 10 ∉ n
  sp : n.head? ≠ some 32
  tab : n.head? ≠ some 9

/-- field pairs that serialise to one line each -/
def FieldsOk (ps : List (Str × Str)) : Prop := ∀ p ∈ ps, StrNameOk p.1 ∧ 13 ∉ p.2 ∧ 10 ∉ p.2

theorem fieldLine_no_crlf (p : Str × Str) (hn : StrNameOk p.1) (h13 : 13 ∉ p.2) (h10 : 10 ∉ p.2) :
    13 ∉ fieldLine p ∧ 10 ∉ fieldLine p ∧ fieldLine p ≠ [] := by
  unfold fieldLine
  split <;> simp [hn.cr, hn.lf, h13, h10]

theorem pairsToStr_cons (p : Str × Str) (t : List (Str × Str)) :
    pairsToStr (p :: t) = fieldLine p ++ crlf ++ pairsToStr t := rfl

theorem pairsToStr_count_lf (ps : List (Str × Str)) (h : FieldsOk ps) : (pairsToStr ps).count 10 = ps.length := by
  induction ps with
  | nil => rfl
  | cons p t ih =>
    obtain ⟨⟨h1, h2, h3⟩, ht⟩ := List.forall_mem_cons.mp h
    have hz := List.count_eq_zero_of_not_mem (fieldLine_no_crlf p h1 h2 h3).2.1
    simp [pairsToStr_cons, hz, ih ht, crlf]

def encPair (p : Str × Str) : Bytes × Bytes := (utf8 p.1, utf8 p.2)

/-- `Str` and `Bytes` are the same type, so `fieldLine`, `pairsToStr` and `FieldsOk` serve the encoded pairs too -/
theorem utf8_pairsToStr (ps : List (Str × Str)) : utf8 (pairsToStr ps) = pairsToStr (ps.map encPair) := by
  induction ps with
  | nil => rfl
  | cons p t ih =>
    have hl : utf8 (fieldLine p) = fieldLine (encPair p) := by
      have : utf8 [58] = [58] ∧ utf8 [58, 32] = [58, 32] := by decide
      unfold fieldLine encPair
      simp only [utf8_eq_nil]
      split
      · rw [utf8_append, this.1]
      · rw [utf8_append, utf8_append, this.2]
    have : utf8 crlf = crlf := by decide
    simp [pairsToStr_cons, utf8_append, hl, ih, this]

theorem FieldsOk.enc {ps : List (Str × Str)} (h : FieldsOk ps) : FieldsOk (ps.map encPair) := by
  intro p hp
  obtain ⟨q, hq, rfl⟩ := List.mem_map.mp hp
  obtain ⟨h1, h2, h3⟩ := h q hq
  have hm := fun (s : Str) x (hx : x < 128) => not_congr (utf8_mem_lt s x hx)
  exact ⟨⟨mt (utf8_eq_nil _).mp h1.ne, (hm _ 58 (by omega)).mpr h1.colon, (hm _ 13 (by omega)).mpr h1.cr,
      (hm _ 10 (by omega)).mpr h1.lf, fun e => h1.sp (utf8_head_lt _ 32 (by omega) e),
      fun e => h1.tab (utf8_head_lt _ 9 (by omega) e)⟩,
    (hm _ 13 (by omega)).mpr h2, (hm _ 10 (by omega)).mpr h3⟩

/-- one CRLF-terminated line without CR or LF inside, and the rest -/
def takeLine : Bytes → Option (Bytes × Bytes)
  | [] => none
  | c :: t =>
    if c = 13 then (match t with
      | 10 :: r => some ([], r)
      | _ => none)
    else if c = 10 then none
    else (takeLine t).map (fun p => (c :: p.1, p.2))

def splitName : Bytes → Option (Bytes × Bytes)
  | [] => none
  | c :: t => if c = 58 then some ([], t) else (splitName t).map (fun p => (c :: p.1, p.2))

/-- `name: value` / `name:`; a line starting with white space (folding) is refused -/
def parseField (l : Bytes) : Option (Bytes × Bytes) :=
  match splitName l with
  | none => none
  | some (n, v) =>
    if n = [] ∨ n.head? = some 32 ∨ n.head? = some 9 then none
    else match v with
      | [] => some (n, [])
      | 32 :: v' => some (n, v')
      | _ => none

/-- named-field lines up to the empty line -/
def parseFieldsB : Nat → Bytes → Option (List (Bytes × Bytes) × Bytes)
  | 0, _ => none
  | fuel + 1, b =>
    match takeLine b with
    | none => none
    | some (l, rest) =>
      if l = [] then some ([], rest)
      else match parseField l, parseFieldsB fuel rest with
        | some p, some (ps, r) => some (p :: ps, r)
        | _, _ => none

def lenName : Bytes := utf8 kLen

/-- Strict reader: `WARC/1.0` CRLF (10 bytes), one line per named field, empty line, a block of
exactly Content-Length bytes (the field must occur exactly once), CRLF CRLF.
Returns the fields, the block and the bytes after the record. -/
def parseRecord (b : Bytes) : Option (List (Bytes × Bytes) × Bytes × Bytes) :=
  if b.take 10 ≠ versionLine ++ crlf then none else
  match parseFieldsB b.length (b.drop 10) with
  | none => none
  | some (ps, rest) =>
    match ps.filter (fun p => p.1 = lenName) with
    | [(_, v)] =>
      match parseDec? v with
      | none => none
      | some n =>
        if n ≤ rest.length ∧ (rest.drop n).take 4 = crlf ++ crlf then some (ps, rest.take n, rest.drop (n + 4))
        else none
    | _ => none

theorem takeLine_line (l rest : Bytes) (h13 : 13 ∉ l) (h10 : 10 ∉ l) :
    takeLine (l ++ 13 :: 10 :: rest) = some (l, rest) := by
  induction l with
  | nil => simp [takeLine]
  | cons c t ih =>
    obtain ⟨hc13, ht13⟩ := List.ne_and_not_mem_of_not_mem_cons h13
    obtain ⟨hc10, ht10⟩ := List.ne_and_not_mem_of_not_mem_cons h10
    simp [takeLine, hc13.symm, hc10.symm, ih ht13 ht10]

theorem splitName_name (n v : Bytes) (h : 58 ∉ n) : splitName (n ++ 58 :: v) = some (n, v) := by
  induction n with
  | nil => simp [splitName]
  | cons c t ih =>
    obtain ⟨hc, ht⟩ := List.ne_and_not_mem_of_not_mem_cons h
    simp [splitName, hc.symm, ih ht]

theorem parseField_line (p : Bytes × Bytes) (hn : StrNameOk p.1) : parseField (fieldLine p) = some p := by
  obtain ⟨n, v⟩ := p
  have e : fieldLine (n, v) = n ++ 58 :: (if v = [] then [] else 32 :: v) := by
    unfold fieldLine; split <;> simp
  rw [e, parseField, splitName_name n _ hn.colon]
  by_cases hv : v = [] <;> simp [hn.ne, hn.sp, hn.tab, hv]

theorem parseFieldsB_lines (ps : List (Bytes × Bytes)) (rest : Bytes) (fuel : Nat) (hf : ps.length < fuel)
    (hn : FieldsOk ps) : parseFieldsB fuel (pairsToStr ps ++ crlf ++ rest) = some (ps, rest) := by
  induction ps generalizing fuel with
  | nil =>
    cases fuel with
    | zero => simp at hf
    | succ f => simp [parseFieldsB, pairsToStr, crlf, takeLine]
  | cons p t ih =>
    cases fuel with
    | zero => simp at hf
    | succ f =>
      obtain ⟨⟨h1, h2, h3⟩, ht⟩ := List.forall_mem_cons.mp hn
      obtain ⟨a, b, c⟩ := fieldLine_no_crlf p h1 h2 h3
      have e : pairsToStr (p :: t) ++ crlf ++ rest = fieldLine p ++ 13 :: 10 :: (pairsToStr t ++ crlf ++ rest) := by
        simp [pairsToStr_cons, crlf]
      rw [e, parseFieldsB, takeLine_line _ _ a b]
      simp only [c, if_false]
      rw [parseField_line p h1, ih f (by simp at hf; omega) ht]

theorem mem_of_mem_lstrip (s : Str) (x : Nat) (h : x ∈ lstrip s) : x ∈ s :=
  (List.dropWhile_sublist _).subset h

theorem strip_eq (s : Str) : strip s = Wpull.strip s := rfl

theorem strip_append_ws (b t : Str) (ht : ∀ c ∈ t, isPySpace c = true) : Wpull.strip (b ++ t) = Wpull.strip b := by
  have hnil : t.dropWhile isPySpace = [] := List.dropWhile_eq_nil_iff.mpr ht
  unfold Wpull.strip Wpull.rstrip Wpull.lstrip
  rw [List.dropWhile_append]
  split <;> rename_i hb
  · rw [hnil, List.isEmpty_iff.mp hb]
  · rw [List.reverse_append, List.dropWhile_append_of_pos fun c hc => ht c (List.mem_reverse.mp hc)]

end Wpull.Warc
