/- Facts about lists that core does not have. -/
namespace List

theorem getLast?_append_of_ne_nil {α : Type _} (a : List α) {t : List α} (h : t ≠ []) :
    (a ++ t).getLast? = t.getLast? := by
  rw [getLast?_append, Option.or_of_isSome (getLast?_isSome.mpr h)]

theorem dropWhile_eq_nil_iff {α : Type _} {p : α → Bool} {l : List α} :
    l.dropWhile p = [] ↔ ∀ x ∈ l, p x = true := by
  induction l with
  | nil => simp
  | cons a t ih => by_cases ha : p a = true <;> simp [ha, ih]

theorem nodup_concat {α : Type _} {l : List α} {a : α} (hl : l.Nodup) (ha : a ∉ l) : (l ++ [a]).Nodup :=
  (perm_append_singleton a l).nodup_iff.2 (nodup_cons.2 ⟨ha, hl⟩)

theorem forall_concat {α : Type _} {l : List α} {a : α} {P : α → Prop} (hl : ∀ x ∈ l, P x) (ha : P a) :
    ∀ x ∈ l ++ [a], P x :=
  forall_mem_append.2 ⟨hl, forall_mem_singleton.2 ha⟩

theorem sum_map_set {α : Type _} (f : α → Nat) {l : List α} {i : Nat} {a : α} (b : α) (h : l[i]? = some a) :
    ((l.set i b).map f).sum + f a = (l.map f).sum + f b := by
  induction l generalizing i with
  | nil => simp at h
  | cons x l ih =>
    cases i with
    | zero => simp at h; subst h; simp only [set_cons_zero, map_cons, sum_cons]; omega
    | succ i => simp at h; have := ih h; simp only [set_cons_succ, map_cons, sum_cons]; omega

theorem sum_map_set_lt {α : Type _} {f : α → Nat} {l : List α} {i : Nat} {a b : α} (h : l[i]? = some a) (hab : f b < f a) :
    ((l.set i b).map f).sum < (l.map f).sum := by
  have := sum_map_set f b h
  omega

/-- `countP_set` without the truncated subtraction -/
theorem countP_set_add {α : Type _} (p : α → Bool) {l : List α} {i : Nat} {a : α} (b : α) (h : l[i]? = some a) :
    (l.set i b).countP p + (if p a then 1 else 0) = l.countP p + (if p b then 1 else 0) := by
  obtain ⟨hi, rfl⟩ := getElem?_eq_some_iff.mp h
  rw [countP_set hi]
  have : (if p l[i] = true then 1 else 0) ≤ l.countP p := by
    split
    · exact countP_pos_iff.mpr ⟨_, getElem_mem hi, ‹_›⟩
    · exact Nat.zero_le _
  omega

theorem eq_of_nodup_map {α β : Type _} {f : α → β} {l : List α} (hn : (l.map f).Nodup) {a b : α} (ha : a ∈ l) (hb : b ∈ l)
    (e : f a = f b) : a = b := by
  induction l with
  | nil => cases ha
  | cons x t ih =>
    simp only [map_cons, nodup_cons] at hn
    rcases mem_cons.mp ha with rfl | ha' <;> rcases mem_cons.mp hb with rfl | hb'
    · rfl
    · exact absurd (mem_map.mpr ⟨b, hb', e.symm⟩) hn.1
    · exact absurd (mem_map.mpr ⟨a, ha', e⟩) hn.1
    · exact ih hn.2 ha' hb'

end List
