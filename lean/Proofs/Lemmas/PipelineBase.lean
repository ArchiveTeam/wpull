/-
C13 helper lemmas: reachability; the invariant `Inv` of the pipeline model with its three groups of clauses (`InvN`, `InvE`,
`InvH`); the paths of the steps (`ProdStep`, `MainStep`, `TaskStep`, `GetwStep`) and the tactic that establishes the invariant at
the end of a path (`inv_leaf`); what the control steps leave alone (`SameHist`).
-/
import Wpull.Pipeline
import Proofs.Lemmas.List
namespace Wpull.Pipeline

inductive Reach (c : Cfg) (conc0 : Nat) : St → Prop
  | init : Reach c conc0 (initSt conc0)
  | step {s s' : St} (a : Act) : Reach c conc0 s → step c s a = some s' → Reach c conc0 s'

def countRun : List Ph → Nat
  | [] => 0
  | p :: l => (if isRun p then 1 else 0) + countRun l

theorem countRun_eq (l : List Ph) : countRun l = l.countP isRun := by
  induction l with
  | nil => rfl
  | cons p l ih => rw [countRun, ih, List.countP_cons, Nat.add_comm]

/-- counted in `ItemQueue._unfinished_items` -/
def isU : Ph → Bool
  | .queued | .run _ | .failed _ => true
  | _ => false

/-- the item the producer is putting -/
def isH : Ph → Bool
  | .held => true
  | _ => false

theorem countRun_zero {l : List Ph} (h : l.any isRun = false) : countRun l = 0 :=
  (countRun_eq l).trans (List.countP_eq_zero.mpr (List.any_eq_false.mp h))

theorem countRun_pos {l : List Ph} {i k : Nat} (h : l[i]? = some (.run k)) : 0 < countRun l := by
  rw [countRun_eq]
  exact List.countP_pos_iff.mpr ⟨_, List.mem_of_getElem? h, rfl⟩

/-- Control and counters.  `hbusy`, `hunf`, `hq`, `hheld`: the counters and the queue against the item table.  `hget`: no getter
is parked while the queue holds more than the getters about to retry (no lost wake-up of a getter).  `hpill`: while stopping there
is a pill for every live worker.  `hput`, `hww`: the producer sleeps only while there is something to wait for.  `hpd`, `hwp`,
`hwp'`, `hnone`: the producer's pc against the pipeline state and the pc of `process()`.  The others say what holds at each
place where `process()` can be suspended (`hany` … `hshut`, `hinit`), `hfail`: a failed item has a failed worker task that is not
reaped yet or `process()` has raised; `hpause`: the unpause event follows the concurrency while running; `hstopped`: the
state is `stopped` only before `process()` and after it returned; `hspin`: the busy loop is never entered. -/
structure InvN (s : St) : Prop where
  hbusy : s.busy = countRun s.items
  hunf : s.unfinished = s.qi + s.busy + s.failedItems
  hget : s.idleWait = 0 ∨ s.qsize ≤ s.idleReady
  hpill : s.pstate = .stopping → s.live ≤ s.pills
  hput : s.prod = .putWait false → 0 < s.qsize
  hww : s.prod = .waitWorker false → 0 < s.unfinished
  hpd : (s.prod = .finished ∨ s.prod = .failed ∨ s.prod = .cancelReq ∨ s.prod = .cancelled) → s.pstate ≠ .running
  hany : s.main = .waitAny false → s.exited = 0 ∧ s.failedW = 0 ∧ 0 < s.live
  hunp : ∀ w, s.main = .waitUnpaused w → s.wt = 0
  hunp' : s.main = .waitUnpaused false → s.pstate = .running ∧ s.unpaused = false
  hshw : s.main = .shutWorkers false → 0 < s.live
  hshut : ∀ w, (s.main = .shutWorkers w ∨ s.main = .waitProd w) → s.pstate = .stopping
  hwp : s.main = .waitProd false → s.prod = .cancelReq
  hwp' : s.main = .waitProd true → (s.prod = .finished ∨ s.prod = .failed ∨ s.prod = .cancelled)
  hfail : 0 < s.failedItems → 0 < s.failedW ∨ s.main = .raised
  hpause : s.pstate = .running → (s.unpaused = true ↔ 0 < s.conc)
  hinit : s.main = .init → s.items = [] ∧ s.prod = .none ∧ s.pills = 0 ∧ s.qitem = none ∧ s.unfinished = 0 ∧
    s.idleReady = 0 ∧ s.idleWait = 0 ∧ s.busy = 0 ∧ s.exited = 0 ∧ s.failedW = 0 ∧ s.pstate = .stopped ∧
    s.failedItems = 0
  hstopped : s.main = .init ∨ s.main = .returned ∨ s.pstate = .running ∨ s.pstate = .stopping
  hspin : s.main ≠ .spin
  hnone : s.prod = .none → s.main = .init
  hq : ∀ i, s.qitem = some i → s.items[i]? = some .queued
  hheld : ∀ b, s.prod = .putWait b → s.items[s.items.length - 1]? = some .held

/-- what a `process()` that is shutting down, or has returned, leaves behind -/
structure InvE (s : St) : Prop where
  e_sw : s.main = .shutWorkers true → s.live = 0
  e_wp : ∀ w, s.main = .waitProd w → s.live = 0 ∧ s.exited = 0 ∧ s.failedW = 0
  e_ret : s.main = .returned → s.live = 0 ∧ s.exited = 0 ∧ s.failedW = 0 ∧ s.pstate = .stopped ∧
    (s.prod = .finished ∨ s.prod = .cancelled)

/-- History.  `first`: in the first run on an object at most the item the producer is putting is `held`; a stopped run may
leave one behind (the cancelled producer's), so later runs do without `none_held`, `one_held`. -/
structure InvH (first : Bool) (c : Cfg) (s : St) : Prop where
  stopReq_stops : s.stopReq = true → s.pstate ≠ .running
  init_no_stopReq : s.main = .init → s.stopReq = false
  ended_unstopped : s.stopReq = false → s.pstate ≠ .running → s.main ≠ .init → (s.prod = .finished ∨ s.prod = .failed)
  polling : s.stopReq = false → s.prod = .getPark → s.prodRunning = true
  putting : ∀ b, s.stopReq = false → s.prod = .putWait b → s.prodRunning = true
  waiting : ∀ b, s.stopReq = false → s.prod = .waitWorker b → s.prodRunning = true
  exhausted : s.stopReq = false → s.prod = .finished → s.items.length = c.n ∧ s.unfinished = 0
  taken_le : s.items.length ≤ c.n
  unfinished_eq : s.unfinished = s.items.countP isU
  none_held : first = true → (∀ b, s.prod ≠ .putWait b) → s.prod ≠ .cancelReq → s.prod ≠ .cancelled → s.items.countP isH = 0
  one_held : first = true → ∀ b, s.prod = .putWait b → s.items.countP isH = 1
  srcFailed_iff : s.srcFailed = true ↔ s.prod = .failed
  failedW_le : s.failedW ≤ s.failedItems
  raised_cause : s.main = .raised → 0 < s.failedItems ∨ s.srcFailed = true
  calls_frozen : s.pstate ≠ .running → s.srcCalls = s.callsAtStop
  not_running : s.pstate ≠ .running → s.prodRunning = false

structure Inv (first : Bool) (c : Cfg) (s : St) : Prop where
  ctl : InvN s
  atEnd : InvE s
  hist : InvH first c s

theorem inv_init (first : Bool) (c : Cfg) (n : Nat) : Inv first c (initSt n) := by
  constructor <;> constructor <;> simp [initSt, St.qi, St.qsize, St.live, St.wt, countRun]

/-- `Inv` from the conjunction of all its clauses: lets one call of `grind` establish them together at the end of a
path of a step -/
theorem Inv.of_and {first : Bool} {c : Cfg} {s : St}
    (h : s.busy = s.items.countP isRun ∧ s.unfinished = s.qi + s.busy + s.failedItems ∧
      (s.idleWait = 0 ∨ s.qsize ≤ s.idleReady) ∧ (s.pstate = .stopping → s.live ≤ s.pills) ∧
      (s.prod = .putWait false → 0 < s.qsize) ∧ (s.prod = .waitWorker false → 0 < s.unfinished) ∧
      ((s.prod = .finished ∨ s.prod = .failed ∨ s.prod = .cancelReq ∨ s.prod = .cancelled) → s.pstate ≠ .running) ∧
      (s.main = .waitAny false → s.exited = 0 ∧ s.failedW = 0 ∧ 0 < s.live) ∧
      (∀ w, s.main = .waitUnpaused w → s.wt = 0) ∧
      (s.main = .waitUnpaused false → s.pstate = .running ∧ s.unpaused = false) ∧
      (s.main = .shutWorkers false → 0 < s.live) ∧
      (∀ w, (s.main = .shutWorkers w ∨ s.main = .waitProd w) → s.pstate = .stopping) ∧
      (s.main = .waitProd false → s.prod = .cancelReq) ∧
      (s.main = .waitProd true → (s.prod = .finished ∨ s.prod = .failed ∨ s.prod = .cancelled)) ∧
      (0 < s.failedItems → 0 < s.failedW ∨ s.main = .raised) ∧
      (s.pstate = .running → (s.unpaused = true ↔ 0 < s.conc)) ∧
      (s.main = .init → s.items = [] ∧ s.prod = .none ∧ s.pills = 0 ∧ s.qitem = none ∧ s.unfinished = 0 ∧
        s.idleReady = 0 ∧ s.idleWait = 0 ∧ s.busy = 0 ∧ s.exited = 0 ∧ s.failedW = 0 ∧ s.pstate = .stopped ∧
        s.failedItems = 0) ∧
      (s.main = .init ∨ s.main = .returned ∨ s.pstate = .running ∨ s.pstate = .stopping) ∧
      s.main ≠ .spin ∧ (s.prod = .none → s.main = .init) ∧
      (∀ i, s.qitem = some i → s.items[i]? = some .queued) ∧
      (∀ b, s.prod = .putWait b → s.items[s.items.length - 1]? = some .held) ∧
      (s.main = .shutWorkers true → s.live = 0) ∧
      (∀ w, s.main = .waitProd w → s.live = 0 ∧ s.exited = 0 ∧ s.failedW = 0) ∧
      (s.main = .returned → s.live = 0 ∧ s.exited = 0 ∧ s.failedW = 0 ∧ s.pstate = .stopped ∧
        (s.prod = .finished ∨ s.prod = .cancelled)) ∧
      (s.stopReq = true → s.pstate ≠ .running) ∧ (s.main = .init → s.stopReq = false) ∧
      (s.stopReq = false → s.pstate ≠ .running → s.main ≠ .init → (s.prod = .finished ∨ s.prod = .failed)) ∧
      (s.stopReq = false → s.prod = .getPark → s.prodRunning = true) ∧
      (∀ b, s.stopReq = false → s.prod = .putWait b → s.prodRunning = true) ∧
      (∀ b, s.stopReq = false → s.prod = .waitWorker b → s.prodRunning = true) ∧
      (s.stopReq = false → s.prod = .finished → s.items.length = c.n ∧ s.unfinished = 0) ∧
      s.items.length ≤ c.n ∧ s.unfinished = s.items.countP isU ∧
      (first = true → (∀ b, s.prod ≠ .putWait b) → s.prod ≠ .cancelReq → s.prod ≠ .cancelled → s.items.countP isH = 0) ∧
      (first = true → ∀ b, s.prod = .putWait b → s.items.countP isH = 1) ∧ (s.srcFailed = true ↔ s.prod = .failed) ∧
      s.failedW ≤ s.failedItems ∧ (s.main = .raised → 0 < s.failedItems ∨ s.srcFailed = true) ∧
      (s.pstate ≠ .running → s.srcCalls = s.callsAtStop) ∧ (s.pstate ≠ .running → s.prodRunning = false)) : Inv first c s := by
  obtain ⟨h1,h2,h3,h4,h5,h6,h7,h8,h9,h10,h11,h12,h13,h14,h15,h16,h17,h18,h19,h20,h21,h22,e1,e2,e3,
    r1,r2,r3,r4,r5,r6,r7,r8,r9,r10,r11,r12,r13,r14,r15,r16⟩ := h
  exact ⟨⟨h1.trans (countRun_eq _).symm,h2,h3,h4,h5,h6,h7,h8,h9,h10,h11,h12,h13,h14,h15,h16,h17,h18,h19,h20,h21,h22⟩, ⟨e1,e2,e3⟩,
    ⟨r1,r2,r3,r4,r5,r6,r7,r8,r9,r10,r11,r12,r13,r14,r15,r16⟩⟩

theorem notifyPC_cases (p : PPC) :
    (notifyPC p = p ∧ p ≠ .putWait false ∧ p ≠ .waitWorker false) ∨ (p = .putWait false ∧ notifyPC p = .putWait true) ∨
    (p = .waitWorker false ∧ notifyPC p = .waitWorker true) := by
  rcases p with _ | _ | _ | (_ | _) | (_ | _) | _ | _ | _ | _ <;> simp [notifyPC]

theorem goneMC_cases (m : MPC) (l : Nat) :
    (goneMC m l = m ∧ m ≠ .waitAny false ∧ (m ≠ .shutWorkers false ∨ l ≠ 0)) ∨ (m = .waitAny false ∧ goneMC m l = .waitAny true) ∨
    (m = .shutWorkers false ∧ l = 0 ∧ goneMC m l = .shutWorkers true) := by
  rcases m with _ | (_ | _) | (_ | _) | (_ | _) | (_ | _) | _ | _ | _ <;> simp [goneMC] <;> omega

theorem pgoneMC_cases (m : MPC) :
    (pgoneMC m = m ∧ m ≠ .waitProd false) ∨ (m = .waitProd false ∧ pgoneMC m = .waitProd true) := by
  rcases m with _ | (_ | _) | (_ | _) | (_ | _) | (_ | _) | _ | _ | _ <;> simp [pgoneMC]

theorem unpauseMC_cases (m : MPC) :
    (unpauseMC m = m ∧ m ≠ .waitUnpaused false) ∨ (m = .waitUnpaused false ∧ unpauseMC m = .waitUnpaused true) := by
  rcases m with _ | (_ | _) | (_ | _) | (_ | _) | (_ | _) | _ | _ | _ <;> simp [unpauseMC]

/-- the loop of `process()` while the pipeline is running: `_process_one_worker` creates `conc - wt` workers when there
are too few and none otherwise (truncated subtraction), then waits for whatever there is to wait for -/
def runSt (s : St) : St :=
  { s with idleReady := s.idleReady + (s.conc - s.wt),
           main := if s.wt + (s.conc - s.wt) > 0 then .waitAny false
                   else if s.unpaused then .spin else .waitUnpaused false }

theorem mainLoop_eq (c : Cfg) (s : St) : mainLoop c s = if s.pstate = .running then runSt s else shutdown c s := by
  have hwt : ({ s with idleReady := s.idleReady + (s.conc - s.wt) } : St).wt = s.wt + (s.conc - s.wt) := by
    simp only [St.wt, St.live]; omega
  unfold mainLoop runSt
  by_cases hc : s.wt < s.conc
  · simp only [hc, hwt, if_true]
    by_cases hp : s.pstate = .running <;> by_cases h0 : s.wt + (s.conc - s.wt) > 0 <;> cases s.unpaused <;>
      simp [hp, h0]
  · have h0 : s.conc - s.wt = 0 := by omega
    simp only [hc, h0, if_false, Nat.add_zero]
    by_cases hp : s.pstate = .running <;> by_cases h1 : s.wt > 0 <;> cases s.unpaused <;> simp [hp, h1]

theorem set_last (l : List Ph) (p q : Ph) : (l ++ [p]).set l.length q = l ++ [q] := by simp

/-! ## the paths of a step

For the repaired code every path through a step function is written down once, with its branch conditions and the
state it ends in; the proofs that go through all steps take their cases from here.  The pc the step starts from is an
index of the relation and not a hypothesis `s.prod = …`: with `s` destructured, `cases` then puts the constructor in
place of the pc everywhere, and the clauses about other pcs vanish before `grind` sees them (an equation in the context
makes every leaf about a third dearer). -/

/-- what `stop()` makes of a running pipeline -/
def stopSt (s : St) : St :=
  { s with pstate := .stopping, prodRunning := false, callsAtStop := s.srcCalls, pills := s.pills + s.wt,
           idleWait := s.idleWait - min s.idleWait s.wt, idleReady := s.idleReady + min s.idleWait s.wt,
           unpaused := true, main := unpauseMC s.main }

theorem doStop_eq {c : Cfg} (hfx : c.fx = Fix.all) (s : St) :
    doStop c s = if s.pstate = .running then stopSt s else s := by
  simp only [doStop, hfx, Fix.all, if_true]
  rfl

/-- `ProdStep c s pc s'`: from the pc `pc` the producer takes `s` to `s'`.  The three ways on from the top of
`while self._running:` (poll the source; return, which calls `stop()`, with the pipeline running or not) appear after
`put_item` went through (`put`, `reput`) and after a wake-up by a worker (`resumed`). -/
inductive ProdStep (c : Cfg) (s : St) : PPC → St → Prop
  | cancelled : ProdStep c s .cancelReq (prodGone { s with prod := .cancelled })
  | notStarted : s.pstate ≠ .running → ProdStep c s .start (prodGone { s with prod := .finished })
  | started : s.pstate = .running →
      ProdStep c s .start { s with prodRunning := true, prod := .getPark, srcCalls := s.srcCalls + 1 }
  | put : s.items.length < c.n → s.qsize = 0 → s.prodRunning = true →
      ProdStep c s .getPark
        { putNow { s with items := s.items ++ [.held] } s.items.length with prod := .getPark, srcCalls := s.srcCalls + 1 }
  | putFinish : s.items.length < c.n → s.qsize = 0 → s.prodRunning = false → s.pstate ≠ .running →
      ProdStep c s .getPark
        (prodGone { putNow { s with items := s.items ++ [.held] } s.items.length with prod := .finished })
  | putStop : s.items.length < c.n → s.qsize = 0 → s.prodRunning = false → s.pstate = .running →
      ProdStep c s .getPark
        (prodGone { stopSt (putNow { s with items := s.items ++ [.held] } s.items.length) with prod := .finished })
  | putBlocked : s.items.length < c.n → s.qsize ≠ 0 →
      ProdStep c s .getPark { s with items := s.items ++ [.held], prod := .putWait false }
  | srcRaised : c.n ≤ s.items.length → c.srcFail = true → s.pstate ≠ .running →
      ProdStep c s .getPark (prodGone { s with prod := .failed, srcFailed := true })
  | srcRaisedStop : c.n ≤ s.items.length → c.srcFail = true → s.pstate = .running →
      ProdStep c s .getPark (prodGone { stopSt s with prod := .failed, srcFailed := true })
  | exhausted : c.n ≤ s.items.length → c.srcFail = false → s.unfinished = 0 → s.pstate ≠ .running →
      ProdStep c s .getPark (prodGone { s with prodRunning := false, prod := .finished })
  | exhaustedStop : c.n ≤ s.items.length → c.srcFail = false → s.unfinished = 0 → s.pstate = .running →
      ProdStep c s .getPark (prodGone { stopSt s with prod := .finished })
  | waitWorkers : c.n ≤ s.items.length → c.srcFail = false → s.unfinished ≠ 0 →
      ProdStep c s .getPark { s with prod := .waitWorker false }
  | reput : s.qsize = 0 → s.prodRunning = true →
      ProdStep c s (.putWait true) { putNow s (s.items.length - 1) with prod := .getPark, srcCalls := s.srcCalls + 1 }
  | reputFinish : s.qsize = 0 → s.prodRunning = false → s.pstate ≠ .running →
      ProdStep c s (.putWait true) (prodGone { putNow s (s.items.length - 1) with prod := .finished })
  | reputStop : s.qsize = 0 → s.prodRunning = false → s.pstate = .running →
      ProdStep c s (.putWait true) (prodGone { stopSt (putNow s (s.items.length - 1)) with prod := .finished })
  | reputBlocked : s.qsize ≠ 0 → ProdStep c s (.putWait true) { s with prod := .putWait false }
  | resumed : s.prodRunning = true →
      ProdStep c s (.waitWorker true) { s with prod := .getPark, srcCalls := s.srcCalls + 1 }
  | resumedFinish : s.prodRunning = false → s.pstate ≠ .running →
      ProdStep c s (.waitWorker true) (prodGone { s with prod := .finished })
  | resumedStop : s.prodRunning = false → s.pstate = .running →
      ProdStep c s (.waitWorker true) (prodGone { stopSt s with prod := .finished })

theorem stepProd_shape {c : Cfg} (hfx : c.fx = Fix.all) {s s' : St} (hs : stepProd c s = some s') :
    ProdStep c s s.prod s' := by
  simp only [stepProd, prodLoop, prodFinish, doStop_eq hfx, hfx, Fix.all, Bool.true_and, bne_iff_ne, ne_eq] at hs
  repeat' split at hs
  all_goals first
    | contradiction
    | (rw [‹s.prod = _›]; cases hs
       try simp only [Bool.not_eq_true, Nat.not_lt, Decidable.not_not] at *
       constructor <;> assumption)

/-- `MainStep c s pc s'`: from the pc `pc`, `process()` takes `s` to `s'`.  After reaping (`reaped…`) and after the unpause
event (`unpaused…`) it is at the top of its loop: running, it goes on (`runSt`); otherwise it shuts down: it waits for the
workers that are left or, with none left, looks at the producer as it does when the last worker has gone (`gone…`). -/
inductive MainStep (c : Cfg) (s : St) : MPC → St → Prop
  | init : MainStep c s .init (runSt { s with pstate := .running, prod := .start, unpaused := decide (s.conc > 0) })
  | reap : 0 < s.failedW → MainStep c s (.waitAny true) { s with main := .raised }
  | reaped : s.failedW = 0 → s.pstate = .running → MainStep c s (.waitAny true) (runSt { s with exited := 0 })
  | reapedShut : s.failedW = 0 → s.pstate ≠ .running → 0 < s.live →
      MainStep c s (.waitAny true) { s with exited := 0, main := .shutWorkers (s.live = 0) }
  | reapedFailed : s.failedW = 0 → s.pstate ≠ .running → s.live = 0 → s.prod = .failed →
      MainStep c s (.waitAny true) { s with exited := 0, failedW := 0, main := .raised }
  | reapedEnded : s.failedW = 0 → s.pstate ≠ .running → s.live = 0 → s.prod = .finished ∨ s.prod = .cancelled →
      MainStep c s (.waitAny true) { s with exited := 0, failedW := 0, main := .returned, pstate := .stopped }
  | reapedCancel : s.failedW = 0 → s.pstate ≠ .running → s.live = 0 →
      s.prod ≠ .failed → s.prod ≠ .finished → s.prod ≠ .cancelled →
      MainStep c s (.waitAny true) { s with exited := 0, failedW := 0, prod := .cancelReq, main := .waitProd false }
  | unpaused : s.pstate = .running → MainStep c s (.waitUnpaused true) (runSt s)
  | unpausedShut : s.pstate ≠ .running → 0 < s.wt →
      MainStep c s (.waitUnpaused true) { s with main := .shutWorkers (s.live = 0) }
  | unpausedFailed : s.pstate ≠ .running → s.wt = 0 → s.prod = .failed →
      MainStep c s (.waitUnpaused true) { s with exited := 0, failedW := 0, main := .raised }
  | unpausedEnded : s.pstate ≠ .running → s.wt = 0 → s.prod = .finished ∨ s.prod = .cancelled →
      MainStep c s (.waitUnpaused true) { s with exited := 0, failedW := 0, main := .returned, pstate := .stopped }
  | unpausedCancel : s.pstate ≠ .running → s.wt = 0 → s.prod ≠ .failed → s.prod ≠ .finished → s.prod ≠ .cancelled →
      MainStep c s (.waitUnpaused true) { s with exited := 0, failedW := 0, prod := .cancelReq, main := .waitProd false }
  | goneReap : 0 < s.failedW → MainStep c s (.shutWorkers true) { s with main := .raised }
  | goneFailed : s.failedW = 0 → s.prod = .failed →
      MainStep c s (.shutWorkers true) { s with exited := 0, failedW := 0, main := .raised }
  | goneEnded : s.failedW = 0 → s.prod = .finished ∨ s.prod = .cancelled →
      MainStep c s (.shutWorkers true) { s with exited := 0, failedW := 0, main := .returned, pstate := .stopped }
  | goneCancel : s.failedW = 0 → s.prod ≠ .failed → s.prod ≠ .finished → s.prod ≠ .cancelled →
      MainStep c s (.shutWorkers true) { s with exited := 0, failedW := 0, prod := .cancelReq, main := .waitProd false }
  | prodFailed : s.prod = .failed → MainStep c s (.waitProd true) { s with main := .raised }
  | prodEnded : s.prod = .finished ∨ s.prod = .cancelled →
      MainStep c s (.waitProd true) { s with main := .returned, pstate := .stopped }
  | prodPending : s.prod ≠ .failed → s.prod ≠ .finished → s.prod ≠ .cancelled →
      MainStep c s (.waitProd true) { s with main := .waitProd false }

theorem stepMain_shape {c : Cfg} (hfx : c.fx = Fix.all) {s s' : St} (hs : stepMain c s = some s') :
    MainStep c s s.main s' := by
  simp only [stepMain, mainLoop_eq, shutdown, shutProd, awaitProd, hfx, Fix.all, Bool.true_and, decide_eq_true_eq,
    if_true] at hs
  repeat' split at hs
  all_goals first
    | contradiction
    | (rw [‹s.main = _›]; cases hs
       constructor <;> first | assumption | (simp_all [St.wt, St.live] <;> omega))
    -- the `raise` of `shutProd` cannot be reached from the top of the loop: no worker task is left there
    | (exfalso; simp only [St.wt] at *; omega)

/-- The ways `queue.get()` goes for an idle worker: it takes a pill and leaves; it takes the item and starts task 0; it
finds nothing and parks. -/
inductive GetwStep (s : St) : St → Prop
  | pill : 0 < s.idleReady → 0 < s.pills →
      GetwStep s (workerGone (notifyProd { s with idleReady := s.idleReady - 1, pills := s.pills - 1,
                                                  exited := s.exited + 1 }))
  | item {i : Nat} : 0 < s.idleReady → s.pills = 0 → s.qitem = some i →
      GetwStep s (notifyProd { s with idleReady := s.idleReady - 1, qitem := none, items := s.items.set i (.run 0),
                                      busy := s.busy + 1, log := s.log ++ [Ev.mk 0 i false] })
  | park : 0 < s.idleReady → s.pills = 0 → s.qitem = none →
      GetwStep s { s with idleReady := s.idleReady - 1, idleWait := s.idleWait + 1 }

theorem stepGetw_shape {s s' : St} (hs : stepGetw s = some s') : GetwStep s s' := by
  simp only [stepGetw, getStep] at hs
  split at hs
  · cases hs
    split
    · exact .pill ‹_› ‹_›
    · split
      · exact .item ‹_› (by omega) ‹_›
      · exact .park ‹_› (by omega) ‹_›
  · contradiction

/-- the state in the middle of a worker's last-task step: `item_done()` is through, the worker is about to call `get()` -/
def midSt (s : St) (i k : Nat) : St :=
  notifyProd { s with items := s.items.set i .done, busy := s.busy - 1, unfinished := s.unfinished - 1,
                      idleReady := s.idleReady + 1, log := s.log ++ [Ev.mk k i true] }

/-- The ways a task ends: the next task of the item starts; after the last task the worker reports the item done and
goes on as an idle worker that calls `get()` (`midSt`); or the task raised. -/
inductive TaskStep (c : Cfg) (s : St) (i : Nat) : Bool → St → Prop
  | next {k : Nat} : s.items[i]? = some (.run k) → k < c.K →
      TaskStep c s i true { s with items := s.items.set i (.run (k + 1)),
                                   log := s.log ++ [Ev.mk k i true] ++ [Ev.mk (k + 1) i false] }
  | last {k : Nat} {s' : St} : s.items[i]? = some (.run k) → ¬ k < c.K → stepGetw (midSt s i k) = some s' →
      TaskStep c s i true s'
  | fail {k : Nat} : s.items[i]? = some (.run k) →
      TaskStep c s i false (workerGone { s with items := s.items.set i (.failed k), busy := s.busy - 1,
                                                failedW := s.failedW + 1, failedItems := s.failedItems + 1 })

theorem stepTask_shape {c : Cfg} {s s' : St} {i : Nat} {ok : Bool} (hs : stepTask c s i ok = some s') :
    TaskStep c s i ok s' := by
  unfold stepTask at hs
  split at hs
  · rename_i k hrun
    cases ok
    · cases hs; exact .fail hrun
    · simp only [if_true] at hs
      split at hs
      · cases hs; exact .next hrun ‹_›
      · exact .last hrun ‹_› (by cases hs; simp [stepGetw, notifyProd, midSt])
  · contradiction

/-- At the end of a path of a step, with the old clauses and the state's fields in the context: all clauses of `Inv`
for the new state by one call of `grind` (its arithmetic and case reasoning; the case lemmas about pcs are named at
the call).  `splits`: the negated goal is a disjunction with one case per clause. -/
macro "inv_leaf" " [" ps:Lean.Parser.Tactic.grindParam,* "]" : tactic =>
  `(tactic| (apply Inv.of_and
             simp only [St.qi, St.qsize, St.live, St.wt, set_last, prodGone, putNow, wakeGetters, stopSt, runSt]
             grind (splits := 60) [St.qsize, St.qi, St.live, St.wt, isRun, isU, isH, $ps,*]))

set_option hygiene false in
/-- the state as its 21 fields, under the names of the fields (the proofs refer to them) -/
macro "destruct_st" s:ident : tactic =>
  `(tactic| obtain ⟨items, prod, prodRunning, pills, qitem, unfinished, idleReady, idleWait, busy, exited, failedW,
    main, pstate, conc, unpaused, log, stopReq, srcCalls, callsAtStop, failedItems, srcFailed⟩ := $s)

/-- what the control steps (`process()`, `stop()`, the concurrency setter) keep -/
structure SameHist (s s' : St) : Prop where
  items : s'.items = s.items
  log : s'.log = s.log
  stopReq : s'.stopReq = s.stopReq
  srcCalls : s'.srcCalls = s.srcCalls

theorem sameHist_doStop (c : Cfg) (s : St) : SameHist s (doStop c s) := by
  unfold doStop
  repeat' split
  all_goals exact ⟨rfl, rfl, rfl, rfl⟩

theorem sameHist_main {c : Cfg} (hfx : c.fx = Fix.all) {s s' : St} (hs : stepMain c s = some s') : SameHist s s' := by
  destruct_st s
  cases stepMain_shape hfx hs <;> exact ⟨rfl, rfl, rfl, rfl⟩

theorem sameHist_stop {c : Cfg} {s s' : St} (hs : step c s .stop = some s') :
    SameHist { s with stopReq := true } s' := by
  simp only [step] at hs
  split at hs
  · contradiction
  · cases hs; exact sameHist_doStop c _

theorem sameHist_doSetConc (s : St) (n : Nat) : SameHist s (doSetConc s n) := by
  simp only [doSetConc, putPills, wakeGetters, setUnpaused]
  repeat' split
  all_goals exact ⟨rfl, rfl, rfl, rfl⟩

theorem sameHist_setConc {c : Cfg} {s s' : St} {n : Nat} (hs : step c s (.setConc n) = some s') : SameHist s s' := by
  simp only [step] at hs
  split at hs
  · contradiction
  · cases hs; exact sameHist_doSetConc s n

end Wpull.Pipeline
