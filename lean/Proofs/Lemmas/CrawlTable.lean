/-
Lemmas about the table operations of `Wpull.Crawl` (insert-or-ignore, status
writes, release, the choice of the next row).  `mem_X` says what a member of the result of `X` is,
`X_mem_…` / `X_urls_…` what is a member of it (so also for the item lists in `CrawlStep`).
-/
import Wpull.Crawl
import Proofs.Lemmas.List
namespace Wpull.Crawl

theorem Row.ext {a b : Row} (h1 : a.url = b.url) (h2 : a.status = b.status) (h3 : a.level = b.level)
    (h4 : a.inline = b.inline) (h5 : a.tries = b.tries) : a = b := by
  cases a; cases b; exact Row.mk.injEq .. ▸ ⟨h1, h2, h3, h4, h5⟩

def urls (t : List Row) : List Url := t.map (·.url)

@[simp] theorem urls_nil : urls [] = [] := rfl
@[simp] theorem urls_append (a b : List Row) : urls (a ++ b) = urls a ++ urls b := List.map_append
@[simp] theorem urls_cons (r : Row) (t : List Row) : urls (r :: t) = r.url :: urls t := rfl

theorem mem_urls {t : List Row} {u : Url} : u ∈ urls t ↔ ∃ r ∈ t, r.url = u := List.mem_map

theorem hasUrl_iff (t : List Row) (u : Url) : hasUrl t u = true ↔ u ∈ urls t := by
  simp [hasUrl, urls]

theorem row_unique {t : List Row} (hn : (urls t).Nodup) {a b : Row} (ha : a ∈ t) (hb : b ∈ t)
    (e : a.url = b.url) : a = b :=
  List.eq_of_nodup_map (f := Row.url) hn ha hb e

theorem addMany_cons (t : List Row) (r : Row) (rest : List Row) :
    addMany t (r :: rest) = if r.url ∈ urls t then addMany t rest
      else ((addMany (t ++ [r]) rest).1, r.url :: (addMany (t ++ [r]) rest).2) := by
  rw [addMany]
  by_cases h : r.url ∈ urls t
  · rw [if_pos h, if_pos ((hasUrl_iff t r.url).2 h)]
  · rw [if_neg h, if_neg (mt (hasUrl_iff t r.url).1 h)]

theorem addMany_spec (t b : List Row) :
    ∃ l, (addMany t b).1 = t ++ l ∧ (∀ r ∈ l, r ∈ b ∧ r.url ∉ urls t) ∧
      (∀ r ∈ b, r.url ∈ urls (t ++ l)) ∧ ((urls t).Nodup → (urls (t ++ l)).Nodup) := by
  induction b generalizing t with
  | nil => exact ⟨[], (List.append_nil t).symm, List.forall_mem_nil _, List.forall_mem_nil _,
      fun h => (List.append_nil t).symm ▸ h⟩
  | cons r rest ih =>
    rw [addMany_cons]
    by_cases h : r.url ∈ urls t
    · rw [if_pos h]
      obtain ⟨l, h1, h2, h3, h4⟩ := ih t
      exact ⟨l, h1, fun x hx => ⟨List.mem_cons_of_mem _ (h2 x hx).1, (h2 x hx).2⟩,
        List.forall_mem_cons.2 ⟨urls_append t l ▸ List.mem_append_left _ h, h3⟩, h4⟩
    · rw [if_neg h]
      obtain ⟨l, h1, h2, h3, h4⟩ := ih (t ++ [r])
      rw [List.append_assoc, List.singleton_append] at h1 h3 h4
      refine ⟨r :: l, h1, List.forall_mem_cons.2 ⟨⟨List.mem_cons_self, h⟩, fun x hx => ?_⟩,
        List.forall_mem_cons.2 ⟨?_, h3⟩, fun hn => h4 ?_⟩
      · exact ⟨List.mem_cons_of_mem _ (h2 x hx).1,
          fun hc => (h2 x hx).2 (urls_append .. ▸ List.mem_append_left _ hc)⟩
      · rw [urls_append, urls_cons]; exact List.mem_append_right _ List.mem_cons_self
      · rw [urls_append]; exact List.nodup_concat hn h

theorem mem_addMany {t b : List Row} {r : Row} (h : r ∈ (addMany t b).1) : r ∈ t ∨ (r ∈ b ∧ r.url ∉ urls t) := by
  obtain ⟨l, h1, h2, _⟩ := addMany_spec t b
  rw [h1] at h
  rcases List.mem_append.mp h with h | h
  · exact Or.inl h
  · exact Or.inr (h2 r h)

theorem addMany_mem_old {t : List Row} (b : List Row) {r : Row} (h : r ∈ t) : r ∈ (addMany t b).1 := by
  obtain ⟨l, h1, _⟩ := addMany_spec t b
  rw [h1]; exact List.mem_append_left _ h

theorem addMany_urls_old (t b : List Row) (u : Url) (h : u ∈ urls t) : u ∈ urls (addMany t b).1 := by
  obtain ⟨r, hr, e⟩ := mem_urls.mp h
  exact mem_urls.mpr ⟨r, addMany_mem_old b hr, e⟩

theorem addMany_urls_new (t b : List Row) (r : Row) (h : r ∈ b) : r.url ∈ urls (addMany t b).1 := by
  obtain ⟨l, h1, _, h3, _⟩ := addMany_spec t b
  rw [h1]; exact h3 r h

theorem addMany_nodup (t b : List Row) (h : (urls t).Nodup) : (urls (addMany t b).1).Nodup := by
  obtain ⟨l, h1, _, _, h4⟩ := addMany_spec t b
  rw [h1]; exact h4 h

theorem startRows_todo (starts : List Url) : ∀ r ∈ starts.map startRow, r.status = .todo :=
  List.forall_mem_map.2 fun _ _ => rfl

theorem childRows_todo (p : Row) (kids : List Child) : ∀ r ∈ kids.map (childRow p), r.status = .todo :=
  List.forall_mem_map.2 fun _ _ => rfl

theorem urls_map {f : Row → Row} (hf : ∀ r, (f r).url = r.url) (t : List Row) : urls (t.map f) = urls t := by
  rw [urls, List.map_map]; exact List.map_congr_left fun r _ => hf r

@[simp] theorem setStatus_urls (t : List Row) (u : Url) (s : Status) (i : Bool) :
    urls (setStatus t u s i) = urls t :=
  urls_map (fun r => by split <;> rfl) t

theorem mem_setStatus {t : List Row} {u : Url} {s : Status} {i : Bool} {r : Row} (h : r ∈ setStatus t u s i) :
    (r ∈ t ∧ r.url ≠ u) ∨ (∃ r0 ∈ t, r0.url = u ∧ r = { r0 with status := s, tries := if i then r0.tries + 1 else r0.tries }) := by
  obtain ⟨r0, h0, rfl⟩ := List.mem_map.mp h
  by_cases hu : r0.url = u
  · exact .inr ⟨r0, h0, hu, if_pos (beq_iff_eq.2 hu)⟩
  · rw [if_neg (mt beq_iff_eq.1 hu)]; exact .inl ⟨h0, hu⟩

theorem setStatus_mem_other {t : List Row} {u : Url} (s : Status) (i : Bool) {r : Row} (h : r ∈ t) (hu : r.url ≠ u) :
    r ∈ setStatus t u s i :=
  List.mem_map.mpr ⟨r, h, if_neg (mt beq_iff_eq.1 hu)⟩

theorem setStatus_mem_self {t : List Row} {u : Url} (s : Status) (i : Bool) {r : Row} (h : r ∈ t) (hu : r.url = u) :
    { r with status := s, tries := if i then r.tries + 1 else r.tries } ∈ setStatus t u s i :=
  List.mem_map.mpr ⟨r, h, if_pos (beq_iff_eq.2 hu)⟩

@[simp] theorem release_urls (t : List Row) : urls (release t) = urls t :=
  urls_map (fun r => by split <;> rfl) t

theorem mem_release {t : List Row} {r : Row} (h : r ∈ release t) :
    (r ∈ t ∧ r.status ≠ .inProgress) ∨ (∃ r0 ∈ t, r0.status = .inProgress ∧ r = { r0 with status := .todo }) := by
  obtain ⟨r0, h0, rfl⟩ := List.mem_map.mp h
  by_cases hs : r0.status = .inProgress
  · exact .inr ⟨r0, h0, hs, if_pos (beq_iff_eq.2 hs)⟩
  · rw [if_neg (mt beq_iff_eq.1 hs)]; exact .inl ⟨h0, hs⟩

theorem release_mem {t : List Row} {x : Row} (h : x ∈ t) :
    (if x.status = .inProgress then { x with status := .todo } else x) ∈ release t :=
  List.mem_map.mpr ⟨x, h, by simp only [beq_iff_eq]⟩

theorem release_no_inProgress (t : List Row) (r : Row) (h : r ∈ release t) : r.status ≠ .inProgress := by
  rcases mem_release h with h | ⟨r0, _, _, e⟩
  · exact h.2
  · subst e; simp

theorem startup_no_inProgress {t : List Row} (ht : ∀ r ∈ t, r.status ≠ .inProgress) (starts : List Url) :
    ∀ r ∈ (addMany t (starts.map startRow)).1, r.status ≠ .inProgress :=
  fun r hr => (mem_addMany hr).elim (ht r) fun h => startRows_todo starts r h.1 ▸ Status.noConfusion

theorem firstWith_some {t : List Row} {s : Status} {r : Row} (h : firstWith t s = some r) :
    r ∈ t ∧ r.status = s := by
  have := List.find?_some h
  exact ⟨List.mem_of_find?_eq_some h, by simpa using this⟩

theorem firstWith_none {t : List Row} {s : Status} (h : firstWith t s = none) :
    ∀ r ∈ t, r.status ≠ s := by
  intro r hr
  have := List.find?_eq_none.mp h r hr
  simpa using this

theorem nextRow_some {t : List Row} {r : Row} (h : nextRow t = some r) :
    r ∈ t ∧ (r.status = .todo ∨ r.status = .error) := by
  unfold nextRow at h
  split at h
  · rename_i r' hr'; cases h; have := firstWith_some hr'; exact ⟨this.1, Or.inl this.2⟩
  · have := firstWith_some h; exact ⟨this.1, Or.inr this.2⟩

theorem nextRow_none {t : List Row} (h : nextRow t = none) :
    ∀ r ∈ t, r.status ≠ .todo ∧ r.status ≠ .error := by
  unfold nextRow at h
  split at h
  · cases h
  · rename_i hn
    intro r hr; exact ⟨firstWith_none hn r hr, firstWith_none h r hr⟩

end Wpull.Crawl
