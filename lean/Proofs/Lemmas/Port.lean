/-
`int(text)` on decimal digit strings, and `int(str(p)) == p`.
-/
import Proofs.Lemmas.Py
namespace Wpull

theorem digitVal_digit {c : Nat} (h : 48 ≤ c ∧ c ≤ 57) : digitVal c = c - 48 := by
  simp [digitVal, isAsciiDigit, h]

theorem intBody_digits (ds : List Nat) : ∀ (acc k : Nat), (∀ c ∈ ds, 48 ≤ c ∧ c ≤ 57) →
    intBody 10 ds acc k false = some (ds.foldl (fun a c => a * 10 + (c - 48)) acc, k + ds.length, []) := by
  induction ds with
  | nil => intro acc k _; simp [intBody]
  | cons c t ih =>
    intro acc k hd
    obtain ⟨hc, ht⟩ := List.forall_mem_cons.1 hd
    have h95 : c ≠ 95 := by omega
    have hlt : c - 48 < 10 := by omega
    simp only [intBody, digitVal_digit hc, hlt, if_true, beq_iff_eq, h95, if_false]
    rw [ih _ _ ht]
    simp only [List.foldl_cons, List.length_cons, Option.some.injEq, Prod.mk.injEq, and_true, true_and]
    omega

theorem asciify_ascii (ds : List Nat) (hd : ∀ c ∈ ds, c < 127) : asciify ds = ds := by
  induction ds with
  | nil => rfl
  | cons c t ih =>
    obtain ⟨hc, ht⟩ := List.forall_mem_cons.1 hd
    simp [asciify, hc, ih ht]

/-- `h0` (no leading zero) is no rule of `int`: it keeps the `0x` / `0o` / `0b` prefix stage out of the proof, and
the texts this is used for, `str(n)`, have it -/
theorem pyInt_digits {c : Nat} {t : List Nat} (hd : ∀ x ∈ c :: t, 48 ≤ x ∧ x ≤ 57)
    (h0 : c ≠ 48 ∨ t = []) (hlen : (c :: t).length ≤ maxStrDigits) :
    pyInt 10 (c :: t) = .ok (Int.ofNat ((c :: t).foldl (fun a c => a * 10 + (c - 48)) 0)) := by
  have hc := hd c (by simp)
  have ha : asciify (c :: t) = c :: t := asciify_ascii _ (fun x hx => by have := hd x hx; omega)
  have hsp : isCSpace c = false := by
    simp only [isCSpace, Bool.or_eq_false_iff, beq_eq_false_iff_ne, Bool.and_eq_false_iff, decide_eq_false_iff_not]
    omega
  have hbody := intBody_digits (c :: t) 0 0 hd
  have hlt : ¬ 10 ≤ c - 48 := by omega
  have hv := digitVal_digit hc
  have h43 : c ≠ 43 := by omega
  have h45 : c ≠ 45 := by omega
  have h95 : c ≠ 95 := by omega
  unfold pyInt
  simp only [ha, List.dropWhile, hsp]
  cases t with
  | nil => simp [h43, h45, h95, hv, hlt, hbody, maxStrDigits]
  | cons x t =>
    have h48 : c ≠ 48 := h0.resolve_right (List.cons_ne_nil x t)
    simp [h43, h45, h95, h48, hv, hlt, hbody]
    -- what is left is the 4300-digit test
    simpa using hlen

theorem pyInt_natDec (p : Nat) (hlen : (natDec p).length ≤ maxStrDigits) :
    pyInt 10 (natDec p) = .ok (Int.ofNat p) := by
  have hd := (natDec_digits p).2
  rcases Nat.eq_zero_or_pos p with rfl | hp
  · decide
  · obtain ⟨c, t, e, hc⟩ := natDec_head p hp
    rw [e] at hd hlen
    have := pyInt_digits hd (.inl (by omega)) hlen
    rwa [← e, natDec_value] at this

end Wpull
