/-
Second invariant, on the check-out history `outs`.  The properties read `kids` (`InvB.closed`: children
stored before a row is final, crash or not); the item clauses serve its proof.
-/
import Proofs.Lemmas.CrawlInv
namespace Wpull.Crawl

structure InvB (c : Cfg) (starts : List Url) (s : St) : Prop where
  startsIn : ∀ u ∈ starts, u ∈ urls s.table
  outsIn : ∀ o ∈ s.outs, o.url ∈ urls s.table ∧ o.status = .inProgress
  notTodoOut : ∀ r ∈ s.table, r.status ≠ .todo → ∃ o ∈ s.outs, o.url = r.url
  itemOut : ∀ it ∈ s.inflight, it.row ∈ s.outs
  flushed : ∀ it ∈ s.inflight, it.phase = .flushed → ∀ k ∈ (c.visit it.row).children, k.url ∈ urls s.table
  pendLog : ∀ it ∈ s.inflight, ∀ v ∈ (c.visit it.row).requests, v ∈ s.log ∨ v ∈ pend it
  /-- a row handed out is dealt with (left) or still open (right): in progress, or put back to to-do by a restart -/
  kids : ∀ o ∈ s.outs, ((∀ k ∈ (c.visit o).children, k.url ∈ urls s.table) ∧
        (∀ v ∈ (c.visit o).requests, v ∈ s.log)) ∨
      (∃ r ∈ s.table, r.url = o.url ∧ r.level = o.level ∧ r.inline = o.inline ∧ r.tries = o.tries ∧
        (r.status = .inProgress ∨ r.status = .todo))

variable {c : Cfg} {starts : List Url} {s s' : St} {e : Ev}

theorem InvB.init (c : Cfg) (starts : List Url) : InvB c starts (init starts) where
  startsIn u hu := addMany_urls_new [] _ (startRow u) (List.mem_map_of_mem hu)
  outsIn := List.forall_mem_nil _
  notTodoOut r hr hs :=
    (mem_addMany hr).elim (fun h => absurd h List.not_mem_nil) fun h =>
      absurd (startRows_todo starts r h.1) hs
  itemOut := List.forall_mem_nil _
  flushed := List.forall_mem_nil _
  pendLog := List.forall_mem_nil _
  kids := List.forall_mem_nil _

theorem InvB.step (ha : InvA s) (hi : InvB c starts s) (h : Tr c starts s e s') : InvB c starts s' := by
  -- no stored URL and no request line is lost, which is all that `startsIn`, `outsIn`, `flushed` and the
  -- left disjunct of `kids` ask of the new state
  obtain ⟨up, lg⟩ := h.mono
  have startsIn : ∀ u ∈ starts, u ∈ urls s'.table := fun u hu => up u (hi.startsIn u hu)
  have outsIn : ∀ o ∈ s.outs, o.url ∈ urls s'.table ∧ o.status = .inProgress :=
    fun o ho => ⟨up _ (hi.outsIn o ho).1, (hi.outsIn o ho).2⟩
  have flushed : ∀ it ∈ s.inflight, it.phase = .flushed →
      ∀ k ∈ (c.visit it.row).children, k.url ∈ urls s'.table :=
    fun it hit hp k hk => up _ (hi.flushed it hit hp k hk)
  have kidsLeft {o : Row}
      (hk : (∀ k ∈ (c.visit o).children, k.url ∈ urls s.table) ∧ ∀ v ∈ (c.visit o).requests, v ∈ s.log) :
      (∀ k ∈ (c.visit o).children, k.url ∈ urls s'.table) ∧ ∀ v ∈ (c.visit o).requests, v ∈ s'.log :=
    ⟨fun k hk' => up _ (hk.1 k hk'), fun v hv => lg _ (hk.2 v hv)⟩
  cases h with
  | checkOut r hd hr hs =>
    exact {
      startsIn
      outsIn := List.forall_concat outsIn ⟨up _ (mem_urls.mpr ⟨r, hr, rfl⟩), rfl⟩
      notTodoOut := fun x hx hs => by
        rcases mem_setStatus hx with ⟨hx, _⟩ | ⟨r0, _, hu, rfl⟩
        · obtain ⟨o, ho, e⟩ := hi.notTodoOut x hx hs
          exact ⟨o, List.mem_append_left _ ho, e⟩
        · exact ⟨_, List.mem_concat_self, hu.symm⟩
      itemOut := List.forall_concat (fun it hit => List.mem_append_left _ (hi.itemOut it hit)) List.mem_concat_self
      flushed := List.forall_concat flushed fun hp => by cases hp
      pendLog := List.forall_concat hi.pendLog fun v hv => .inr hv
      kids := List.forall_concat (a := { r with status := .inProgress })
        (fun o ho => (hi.kids o ho).imp kidsLeft fun ⟨x, hx, h1, h2, h3, h4, h5⟩ => by
          by_cases hu : x.url = r.url
          · exact ⟨_, setStatus_mem_self .inProgress false hx hu, h1, h2, h3, h4, .inl rfl⟩
          · exact ⟨x, setStatus_mem_other _ _ hx hu, h1, h2, h3, h4, h5⟩)
        (.inr ⟨_, setStatus_mem_self .inProgress false hr rfl, rfl, rfl, rfl, rfl, .inl rfl⟩) }
  | request r v rest hd hm =>
    have hout : r ∈ s.outs := hi.itemOut _ hm
    exact {
      startsIn, outsIn
      notTodoOut := hi.notTodoOut
      itemOut := forall_putItem hi.itemOut hout
      flushed := forall_putItem flushed fun hp => by cases hp
      pendLog := forall_putItem
        (fun it hit w hw' => (hi.pendLog it hit w hw').imp_left (lg w))
        fun w hw' => (hi.pendLog _ hm w hw').elim (fun h => .inl (lg w h)) fun h =>
          (List.mem_cons.mp h).elim (fun e => .inl (e ▸ List.mem_concat_self)) .inr
      kids := fun o ho => (hi.kids o ho).imp_left kidsLeft }
  | flush r hd hm =>
    have hout : r ∈ s.outs := hi.itemOut _ hm
    exact {
      startsIn, outsIn
      notTodoOut := fun x hx hs =>
        (mem_addMany hx).elim (hi.notTodoOut x · hs) fun hx => absurd (childRows_todo r _ x hx.1) hs
      itemOut := forall_putItem hi.itemOut hout
      flushed := forall_putItem flushed fun _ k hk => addMany_urls_new _ _ (childRow r k) (List.mem_map_of_mem hk)
      pendLog := forall_putItem hi.pendLog fun w hw' =>
        (hi.pendLog _ hm w hw').imp_right fun h => absurd h List.not_mem_nil
      kids := fun o ho => (hi.kids o ho).imp kidsLeft fun ⟨x, hx, hrest⟩ => ⟨x, addMany_mem_old _ hx, hrest⟩ }
  | checkIn r hd hm =>
    have hrow : r ∈ s.table ∧ r.status = .inProgress := ha.itemRow _ hm
    exact {
      startsIn, outsIn
      notTodoOut := fun x hx hs => by
        rcases mem_setStatus hx with ⟨hx, _⟩ | ⟨r0, _, hu, rfl⟩
        · exact hi.notTodoOut x hx hs
        · exact ⟨r, hi.itemOut _ hm, hu.symm⟩
      itemOut := fun it hit => hi.itemOut it (mem_dropItem.mp hit).1
      flushed := fun it hit => flushed it (mem_dropItem.mp hit).1
      pendLog := fun it hit => hi.pendLog it (mem_dropItem.mp hit).1
      kids := fun o ho => by
        rcases hi.kids o ho with hk | ⟨x, hx, h1, h2, h3, h4, h5⟩
        · exact .inl (kidsLeft hk)
        · by_cases hu : x.url = r.url
          · -- `o` was handed out as the row now checked in: its item is flushed and has nothing pending
            obtain rfl : x = r := row_unique ha.nodup hx hrow.1 hu
            obtain rfl : o = x :=
              Row.ext h1.symm ((hi.outsIn o ho).2.trans hrow.2.symm) h2.symm h3.symm h4.symm
            exact .inl ⟨flushed _ hm rfl, fun w hw' => (hi.pendLog _ hm w hw').resolve_right List.not_mem_nil⟩
          · exact .inr ⟨x, setStatus_mem_other _ _ hx hu, h1, h2, h3, h4, h5⟩ }
  | crash =>
    exact ⟨startsIn, outsIn, hi.notTodoOut, List.forall_mem_nil _, List.forall_mem_nil _, List.forall_mem_nil _,
      hi.kids⟩
  | restart hd =>
    exact {
      startsIn, outsIn
      notTodoOut := fun x hx hs => by
        rcases mem_addMany hx with hx | hx
        · rcases mem_release hx with ⟨hx, _⟩ | ⟨r0, _, _, rfl⟩
          · exact hi.notTodoOut x hx hs
          · exact absurd rfl hs
        · exact absurd (startRows_todo starts x hx.1) hs
      itemOut := ha.noItem hd
      flushed := ha.noItem hd
      pendLog := ha.noItem hd
      kids := fun o ho => (hi.kids o ho).imp kidsLeft fun ⟨x, hx, h1, h2, h3, h4, h5⟩ => by
        have hm := release_mem hx
        by_cases hs : x.status = .inProgress
        · rw [if_pos hs] at hm
          exact ⟨_, addMany_mem_old _ hm, h1, h2, h3, h4, .inr rfl⟩
        · rw [if_neg hs] at hm
          exact ⟨x, addMany_mem_old _ hm, h1, h2, h3, h4, h5⟩ }

theorem InvB.closed (ha : InvA s) (hb : InvB c starts s) {o r : Row} (ho : o ∈ s.outs) (hr : r ∈ s.table)
    (hu : r.url = o.url) (hs : r.status = .done ∨ r.status = .skipped ∨ r.status = .error) :
    (∀ k ∈ (c.visit o).children, k.url ∈ urls s.table) ∧ (∀ v ∈ (c.visit o).requests, v ∈ s.log) := by
  rcases hb.kids o ho with hk | ⟨y, hy, h1, _, _, _, h5⟩
  · exact hk
  · obtain rfl : y = r := row_unique ha.nodup hy hr (h1.trans hu.symm)
    rcases h5 with h' | h' <;> rw [h'] at hs <;> exact absurd hs (by decide)

end Wpull.Crawl
