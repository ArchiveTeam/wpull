/- C13 helper lemmas: every step keeps the invariant `Inv`. -/
import Proofs.Lemmas.PipelineBase
namespace Wpull.Pipeline

theorem inv_getw {first : Bool} {c : Cfg} {s s' : St} (h : Inv first c s) (hs : stepGetw s = some s') :
    Inv first c s' := by
  obtain ⟨⟨⟩, ⟨⟩, ⟨⟩⟩ := h
  destruct_st s
  simp only [St.qi, St.qsize, St.live, St.wt, countRun_eq] at *
  cases stepGetw_shape hs with
  | pill => simp only [notifyProd, workerGone]; inv_leaf [notifyPC_cases, goneMC_cases]
  | item =>
    simp only [notifyProd]
    inv_leaf [notifyPC_cases]
  | park => inv_leaf []

theorem inv_midSt {first : Bool} {c : Cfg} {s : St} {i k : Nat} (h : Inv first c s)
    (hrun : s.items[i]? = some (.run k)) : Inv first c (midSt s i k) := by
  obtain ⟨⟨⟩, ⟨⟩, ⟨⟩⟩ := h
  destruct_st s
  simp only [St.qi, St.qsize, St.live, St.wt, countRun_eq] at *
  simp only [midSt, notifyProd]
  inv_leaf [notifyPC_cases]

theorem inv_task {first : Bool} {c : Cfg} {s s' : St} {i : Nat} {ok : Bool} (h : Inv first c s)
    (hs : stepTask c s i ok = some s') : Inv first c s' := by
  cases stepTask_shape hs with
  | @next k hrun =>
    obtain ⟨⟨⟩, ⟨⟩, ⟨⟩⟩ := h
    destruct_st s
    simp only [St.qi, St.qsize, St.live, St.wt, countRun_eq] at *
    inv_leaf []
  | last hrun _ hg => exact inv_getw (inv_midSt h hrun) hg
  | @fail k hrun =>
    obtain ⟨⟨⟩, ⟨⟩, ⟨⟩⟩ := h
    destruct_st s
    have hp := countRun_pos hrun
    simp only [St.qi, St.qsize, St.live, St.wt, countRun_eq] at *
    simp only [workerGone]
    inv_leaf [goneMC_cases]

theorem inv_stop {first : Bool} {c : Cfg} (hfx : c.fx = Fix.all) {s s' : St} (h : Inv first c s)
    (hs : step c s .stop = some s') : Inv first c s' := by
  simp only [step] at hs
  split at hs
  · contradiction
  · cases hs
    obtain ⟨⟨⟩, ⟨⟩, ⟨⟩⟩ := h
    destruct_st s
    simp only [St.qi, St.qsize, St.live, St.wt, countRun_eq] at *
    simp only [doStop_eq hfx]
    split
    · inv_leaf [unpauseMC_cases]
    · inv_leaf []

theorem inv_setConc {first : Bool} {c : Cfg} {s s' : St} {n : Nat} (h : Inv first c s)
    (hs : step c s (.setConc n) = some s') : Inv first c s' := by
  simp only [step] at hs
  split at hs
  · contradiction
  · cases hs
    obtain ⟨⟨⟩, ⟨⟩, ⟨⟩⟩ := h
    destruct_st s
    simp only [St.qi, St.qsize, St.live, St.wt, countRun_eq] at *
    simp only [doSetConc, putPills, wakeGetters, setUnpaused]
    repeat' split
    all_goals inv_leaf [unpauseMC_cases]

theorem inv_prod {first : Bool} {c : Cfg} (hfx : c.fx = Fix.all) {s s' : St} (h : Inv first c s)
    (hs : stepProd c s = some s') : Inv first c s' := by
  have hheld := h.ctl.hheld
  obtain ⟨⟨⟩, ⟨⟩, ⟨⟩⟩ := h
  destruct_st s
  simp only [St.qi, St.qsize, St.live, St.wt, countRun_eq] at *
  -- `put_item` after a wake-up queues the item the producer holds, which is the last one taken
  have hc := fun f b (hb : prod = .putWait b) => List.countP_set_add f .queued (hheld b hb)
  replace hs := stepProd_shape hfx hs
  cases hs <;> inv_leaf [pgoneMC_cases, unpauseMC_cases]

theorem inv_main {first : Bool} {c : Cfg} (hfx : c.fx = Fix.all) {s s' : St} (h : Inv first c s)
    (hs : stepMain c s = some s') : Inv first c s' := by
  obtain ⟨⟨⟩, ⟨⟩, ⟨⟩⟩ := h
  destruct_st s
  simp only [St.qi, St.qsize, St.live, St.wt, countRun_eq] at *
  replace hs := stepMain_shape hfx hs
  cases hs <;> inv_leaf []

theorem inv_step {first : Bool} {c : Cfg} (hfx : c.fx = Fix.all) {s s' : St} {a : Act} (h : Inv first c s)
    (hs : step c s a = some s') : Inv first c s' := by
  cases a with
  | prod => exact inv_prod hfx h hs
  | main => exact inv_main hfx h hs
  | getw => exact inv_getw h hs
  | task i ok => exact inv_task h hs
  | stop => exact inv_stop hfx h hs
  | setConc n => exact inv_setConc h hs

/-- a second `process()` on the object a returned run left behind, with any concurrency `k`, the source refilled with
`m` fresh items (`restartSt` reads nothing of `c` but `c.fx`): from here on an item may have been dropped by a cancelled
producer -/
theorem inv_restart {first : Bool} {c : Cfg} (hfx : c.fx = Fix.all) {s : St} (k m : Nat) (h : Inv first c s)
    (hret : s.main = .returned) : Inv false { c with n := c.n + m } (restartSt c k s) := by
  obtain ⟨⟨⟩, ⟨⟩, ⟨⟩⟩ := h
  destruct_st s
  simp only at hret
  subst hret
  simp only [St.qi, St.qsize, St.live, St.wt, countRun_eq] at *
  simp only [restartSt, mainLoop_eq, hfx, Fix.all, if_true]
  inv_leaf []

end Wpull.Pipeline
