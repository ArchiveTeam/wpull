/- `lit` of a string literal without the kernel's slow `String.toList` on literals: the kernel expands
`"abc"` to `String.ofList ['a', 'b', 'c']` in linear time, and `String.toList_ofList` does the rest. -/
import Wpull.Py.Basic
namespace Wpull

theorem lit_ofList (cs : List Char) : lit (String.ofList cs) = cs.map Char.toNat := by
  rw [lit, String.toList_ofList]

end Wpull
