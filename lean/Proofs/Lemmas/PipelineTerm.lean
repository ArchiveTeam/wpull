/- C13 helper lemmas: a measure that decreases on every internal step (no livelock).
The potential `phi` charges everything that can still cause a step: an item by the steps it has before it (`wPh`), the
source by its remaining items (`srcPot`), a pill 6, a worker that will call `get()` 2 and a parked one 1, a finished worker
task 3, each worker still to be created 3, the two coroutines by their pc (`wP`, `wM`; a woken wait weighs 2 more than a
sleeping one, so a wake-up costs at most 2: `wP_notify`, `wM_gone`).  The weights are chosen so that every path
of every step comes out lower.  Two steps raise the potential and are paid by `rank`: the first step of `process()`
(workers are created) and the one in which the pipeline stops (`stop()` inserts a pill per worker task). -/
import Proofs.Lemmas.PipelineInv
namespace Wpull.Pipeline

def wPh (K : Nat) : Ph → Nat
  | .held => 3 * K + 9
  | .queued => 3 * K + 7
  | .run k => 3 * (K - k) + 6
  | .done => 0
  | .failed _ => 0

def wP : PPC → Nat
  | .none => 0 | .start => 3 | .getPark => 1
  | .putWait b => if b then 2 else 0
  | .waitWorker b => if b then 2 else 0
  | .finished => 0 | .failed => 0 | .cancelReq => 3 | .cancelled => 0

def wM : MPC → Nat
  | .init => 0
  | .waitAny b => if b then 7 else 5
  | .waitUnpaused b => if b then 7 else 5
  | .shutWorkers b => if b then 6 else 4
  | .waitProd b => if b then 3 else 1
  | .returned => 0 | .raised => 0 | .spin => 0

def srcPot (K : Nat) : Nat → Nat
  | 0 => 0
  | m + 1 => srcPot K m + (3 * K + 12)

def phi (c : Cfg) (s : St) : Nat :=
  srcPot c.K (c.n - s.items.length) + (s.items.map (wPh c.K)).sum + wP s.prod + 6 * s.pills + 2 * s.idleReady + s.idleWait +
  3 * s.exited + 3 * s.failedW + wM s.main + (if s.pstate = .running then 3 * (s.conc - s.wt) else 0)

def rank (s : St) : Nat := if s.main = .init then 2 else if s.pstate = .running then 1 else 0

def Decr (c : Cfg) (s' s : St) : Prop := rank s' < rank s ∨ (rank s' = rank s ∧ phi c s' < phi c s)

theorem Decr.trans {c : Cfg} {a b d : St} (h1 : Decr c a b) (h2 : Decr c b d) : Decr c a d := by
  simp only [Decr] at *
  omega

theorem wP_notify (p : PPC) : wP (notifyPC p) ≤ wP p + 2 := by
  rcases p with _ | _ | _ | (_ | _) | (_ | _) | _ | _ | _ | _ <;> simp [notifyPC, wP]

theorem wM_gone (m : MPC) (l : Nat) : wM (goneMC m l) ≤ wM m + 2 := by
  rcases m with _ | (_ | _) | (_ | _) | (_ | _) | (_ | _) | _ | _ | _ <;> simp only [goneMC] <;> (try split) <;> simp [wM]

theorem wP_vals : wP .none = 0 ∧ wP .start = 3 ∧ wP .getPark = 1 ∧ wP (.putWait true) = 2 ∧ wP (.putWait false) = 0 ∧
    wP (.waitWorker true) = 2 ∧ wP (.waitWorker false) = 0 ∧ wP .finished = 0 ∧ wP .failed = 0 ∧ wP .cancelReq = 3 ∧
    wP .cancelled = 0 := by simp [wP]

theorem wM_shut_le (b : Bool) : wM (.shutWorkers b) ≤ 6 := by cases b <;> simp [wM]

theorem wM_vals : wM .init = 0 ∧ wM (.waitAny true) = 7 ∧ wM (.waitAny false) = 5 ∧ wM (.waitUnpaused true) = 7 ∧
    wM (.waitUnpaused false) = 5 ∧ wM (.shutWorkers true) = 6 ∧ wM (.shutWorkers false) = 4 ∧ wM (.waitProd true) = 3 ∧
    wM (.waitProd false) = 1 ∧ wM .returned = 0 ∧ wM .raised = 0 ∧ wM .spin = 0 := by simp [wM]

/-- At a leaf of a step: unfold the measure and let `grind` do the arithmetic, with the weights of the pcs (`wP_vals`,
`wM_vals`) and the bounds named at the call. -/
macro "decr_tac" "[" ps:Lean.Parser.Tactic.grindParam,* "]" : tactic =>
  `(tactic| (simp only [Decr, rank, phi, St.qi, St.qsize, St.live, St.wt, set_last, List.map_append, List.sum_append, List.map_cons, List.map_nil, List.sum_cons, List.sum_nil, wPh, List.length_append,
               List.length_cons, List.length_nil, List.length_set, prodGone, putNow, wakeGetters, stopSt, runSt]
             have hwp := wP_vals
             have hwm := wM_vals
             grind [St.qsize, St.qi, St.live, St.wt, $ps,*]))

theorem decr_getw {c : Cfg} {s s' : St} (h : InvN s) (hs : stepGetw s = some s') : Decr c s' s := by
  cases stepGetw_shape hs with
  | pill => simp only [notifyProd, workerGone]; decr_tac [wP_notify, wM_gone, notifyPC_cases, goneMC_cases]
  | @item i _ _ hqi =>
    have hc := List.sum_map_set (wPh c.K) (.run 0) (h.hq i hqi)
    simp only [wPh] at hc
    simp only [notifyProd]
    decr_tac [wP_notify, notifyPC_cases]
  | park => decr_tac []

theorem decr_midSt {c : Cfg} {s : St} {i k : Nat} (hrun : s.items[i]? = some (.run k)) : Decr c (midSt s i k) s := by
  have hc := List.sum_map_set (wPh c.K) .done hrun
  simp only [wPh] at hc
  simp only [midSt, notifyProd]
  decr_tac [wP_notify, notifyPC_cases]

theorem decr_task {first : Bool} {c : Cfg} {s s' : St} {i : Nat} {ok : Bool} (h : Inv first c s)
    (hs : stepTask c s i ok = some s') : Decr c s' s := by
  cases stepTask_shape hs with
  | @next k hrun =>
    have hc := List.sum_map_set (wPh c.K) (.run (k + 1)) hrun
    simp only [wPh] at hc
    decr_tac []
  | last hrun _ hg => exact (decr_getw (inv_midSt h hrun).ctl hg).trans (decr_midSt hrun)
  | @fail k hrun =>
    have hc := List.sum_map_set (wPh c.K) (.failed k) hrun
    simp only [wPh] at hc
    simp only [workerGone]
    decr_tac [wM_gone, goneMC_cases]

theorem srcPot_succ (K n len : Nat) (h : len < n) : srcPot K (n - len) = srcPot K (n - (len + 1)) + (3 * K + 12) := by
  have : n - len = (n - (len + 1)) + 1 := by omega
  rw [this]; rfl

theorem decr_prod {c : Cfg} (hfx : c.fx = Fix.all) {s s' : St} (h : InvN s)
    (hs : stepProd c s = some s') : Decr c s' s := by
  have hheld := h.hheld
  cases h
  destruct_st s
  simp only [St.qi, St.qsize, St.live, St.wt] at *
  have hc : ∀ b, prod = .putWait b →
      ((items.set (items.length - 1) .queued).map (wPh c.K)).sum + 2 = (items.map (wPh c.K)).sum := fun b hb => by
    have := List.sum_map_set (wPh c.K) .queued (hheld b hb)
    simp only [wPh] at this
    omega
  have hsp := srcPot_succ c.K c.n items.length
  replace hs := stepProd_shape hfx hs
  cases hs <;> decr_tac [pgoneMC_cases, unpauseMC_cases]

theorem decr_main {c : Cfg} (hfx : c.fx = Fix.all) {s s' : St} (h : InvN s)
    (hs : stepMain c s = some s') : Decr c s' s := by
  cases h
  destruct_st s
  simp only [St.qi, St.qsize, St.live, St.wt] at *
  replace hs := stepMain_shape hfx hs
  cases hs <;> decr_tac [wM_shut_le]

/-- the internal steps (everything but the control calls `stop` / `setConc`) -/
def Act.internal : Act → Bool
  | .stop | .setConc _ => false
  | _ => true

theorem decr_step {first : Bool} {c : Cfg} (hfx : c.fx = Fix.all) {s s' : St} {a : Act} (h : Inv first c s)
    (ha : a.internal = true) (hs : step c s a = some s') : Decr c s' s := by
  cases a with
  | prod => exact decr_prod hfx h.ctl hs
  | main => exact decr_main hfx h.ctl hs
  | getw => exact decr_getw h.ctl hs
  | task i ok => exact decr_task h hs
  | stop => simp [Act.internal] at ha
  | setConc n => simp [Act.internal] at ha

end Wpull.Pipeline
