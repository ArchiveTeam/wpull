/-
C09 — Nothing a server sends can end the crawl (handler layer).

`escape_sound`: the syntactic over-approximation `escapes` of `Wpull.Skeleton` is sound for the big-step exception
semantics `Exec`.  The per-run obligation generated by `harness/skeleton.py` (the skeleton of the current source, its
subclass table, `allAllowed … = true` by `decide`) then yields, via `entry_only_allowed`, that only per-URL error
kinds can leave the entry point — relative to the declared raise-sets of the primitives.
-/
import Wpull.Skeleton
namespace Wpull.Skeleton

theorem isa_refl (L : Lattice) (e : Nat) : L.isa e e = true := by simp [Lattice.isa]

theorem any_isa_trans {L : Lattice}
    (htrans : ∀ e r c, L.isa e r = true → L.isa r c = true → L.isa e c = true)
    {e r : Nat} (hi : L.isa e r = true) {cs : List Nat} (h : cs.any (L.isa r ·) = true) : cs.any (L.isa e ·) = true := by
  obtain ⟨c, hcm, hrc⟩ := List.any_eq_true.mp h
  exact List.any_eq_true.mpr ⟨c, hcm, htrans e r c hi hrc⟩

theorem find_some {L : Lattice} {e : Nat} {cs : List Nat} {p : Prog} : ∀ {hs : Handlers},
    hs.find L e = some (cs, p) → ∃ c ∈ cs, L.isa e c = true
  | .nil, h => by cases h
  | .cons cs0 h0 rest, h => by
    rw [Handlers.find] at h
    split at h
    · rename_i hany; cases h; exact List.any_eq_true.mp hany
    · exact find_some h

theorem catchesAll_of_find_none {L : Lattice}
    (htrans : ∀ e r c, L.isa e r = true → L.isa r c = true → L.isa e c = true) {e r : Nat} (hi : L.isa e r = true) :
    ∀ {hs : Handlers}, hs.find L e = none → hs.catchesAll L r = false
  | .nil, _ => rfl
  | .cons cs h0 rest, h => by
    rw [Handlers.find] at h
    split at h
    · cases h
    · rename_i hany
      rw [Handlers.catchesAll, catchesAll_of_find_none htrans hi h, Bool.or_false, Bool.eq_false_iff]
      exact fun hc => hany (any_isa_trans htrans hi hc)

/-- the clause that `find` selects sees a bound of the caught exception, and what its handler lets
escape is part of `escapesH` -/
theorem handler_sound {L : Lattice}
    (htrans : ∀ e r c, L.isa e r = true → L.isa r c = true → L.isa e c = true)
    {e r : Nat} {cs : List Nat} {p : Prog} (hi : L.isa e r = true) : ∀ {hs : Handlers} {eb : List Nat},
    hs.find L e = some (cs, p) → r ∈ eb →
    ∃ eb', r ∈ eb' ∧ ∀ x ∈ escapes L p (caughtBounds L eb' cs), x ∈ escapesH L hs eb
  | .nil, _, h, _ => by cases h
  | .cons cs0 h0 rest, eb, h, hr => by
    rw [Handlers.find] at h
    simp only [escapesH, List.mem_append]
    split at h
    · cases h
      exact ⟨eb, hr, fun x hx => Or.inl hx⟩
    · rename_i hany
      -- `r` is among the bounds the later clauses see: this clause does not catch it completely
      have hr' : r ∈ eb.filter (fun r => !cs0.any (L.isa r ·)) := by
        refine List.mem_filter.mpr ⟨hr, ?_⟩
        rw [Bool.not_eq_true', Bool.eq_false_iff]
        exact fun hc => hany (any_isa_trans htrans hi hc)
      obtain ⟨eb', h1, h2⟩ := handler_sound htrans hi h hr'
      exact ⟨eb', h1, fun x hx => Or.inr (h2 x hx)⟩

/-- The shape of `caughtBounds`: for a body bound `r` and a clause class `c`, an exception below both is bounded
by `r` if `r ≤ c`, by `c` if `c ≤ r`, and again by `c` if the two are incomparable (with multiple inheritance an
instance can lie below both). -/
theorem caught_bounded {L : Lattice} {eb cs : List Nat} {e r c : Nat} (hr : r ∈ eb) (her : L.isa e r = true)
    (hc : c ∈ cs) (hec : L.isa e c = true) : ∃ b ∈ caughtBounds L eb cs, L.isa e b = true := by
  refine ⟨if L.isa r c then r else c, ?_, by split <;> assumption⟩
  simp only [caughtBounds, List.mem_append, List.mem_flatMap, List.mem_filterMap, List.mem_filter, List.any_eq_true]
  by_cases h1 : L.isa r c = true
  · exact Or.inl ⟨r, hr, c, hc, by simp [h1]⟩
  · by_cases h2 : L.isa c r = true
    · exact Or.inl ⟨r, hr, c, hc, by simp [h1, h2]⟩
    · exact Or.inr ⟨by simpa [h1] using hc, r, hr, by simp [h1, h2]⟩

theorem bound_mono {L : Lattice} {e : Nat} {a b : List Nat} (hs : ∀ r ∈ a, r ∈ b) :
    (∃ r ∈ a, L.isa e r = true) → ∃ r ∈ b, L.isa e r = true
  | ⟨r, hr, hi⟩ => ⟨r, hs r hr, hi⟩

/-- **escape_sound** Every exception that execution of a skeleton can end with is
an instance of (a subclass of) one of the classes in `escapes`.  For every
program, every transitive subclass table, every handling context. -/
theorem escape_sound (L : Lattice)
    (htrans : ∀ e r c, L.isa e r = true → L.isa r c = true → L.isa e c = true)
    {p : Prog} {cur : Option Nat} {o : Outcome} (hx : Exec L p cur o) :
    ∀ e, o = .exc e → ∀ ctx, (∀ e0, cur = some e0 → ∃ r ∈ ctx, L.isa e0 r = true) →
      ∃ r ∈ escapes L p ctx, L.isa e r = true := by
  induction hx with
  | skip | primOk | seqEarly | loopDone => intro e he; cases he
  | raise => intro e he ctx _; cases he; exact ⟨_, by simp [escapes], isa_refl L _⟩
  | primExc hr hi => intro e he ctx _; cases he; exact ⟨_, by simpa [escapes] using hr, hi⟩
  | reraise => intro e he ctx hc; cases he; exact hc _ rfl
  | loopStep _ _ _ ih => exact ih
  -- the exception comes out of a sub-execution (`tryOk`: `else`), whose `escapes` is part of that of the whole
  | seqExc _ ih | seqNext _ _ _ ih | choiceL _ ih | choiceR _ ih | loopExc _ ih | tryOk _ _ _ _ ih _ | tryFin _ ih =>
    intro e he ctx hc
    refine bound_mono (fun r hr => ?_) (ih e he ctx hc)
    simp only [escapes, List.mem_append, hr, or_true, true_or]
  | @tryMiss cur body hs orelse fin e0 _ hfind _ ih1 _ =>
    intro e he ctx hc
    cases he
    obtain ⟨r, hr, hi⟩ := ih1 e0 rfl ctx hc
    refine ⟨r, ?_, hi⟩
    simp only [escapes, List.mem_append, List.mem_filter, hr, catchesAll_of_find_none htrans hi hfind,
      Bool.not_false, and_self, true_or]
  | @tryHit cur body hs orelse fin e0 cs h o _ hfind _ _ ih1 ih2 _ =>
    intro e he ctx hc
    obtain ⟨r, hr, hi⟩ := ih1 e0 rfl ctx hc
    obtain ⟨c, hcm, hec⟩ := find_some hfind
    obtain ⟨eb', hreb, hsub⟩ := handler_sound htrans hi hfind hr
    -- the handler runs in the context `caughtBounds`, which bounds `e0`
    refine bound_mono (fun x hx => ?_) (ih2 e he _ fun x hx => by cases hx; exact caught_bounded hreb hi hcm hec)
    simp only [escapes, List.mem_append, hsub x hx, or_true, true_or]

/-- a subclass table given as a list: row `i` = the ancestors of class `i` -/
def ofTable (t : List (List Nat)) : Lattice := { anc := fun i => (t[i]?).getD [] }

/-- the decidable transitivity test run on the shipped table -/
def transOk (t : List (List Nat)) : Bool :=
  (List.range t.length).all fun e =>
    ((t[e]?).getD []).all fun r => ((t[r]?).getD []).all fun c => ((t[e]?).getD []).contains c

/-- **trans_of_table** — a table that passes `transOk` gives a transitive `isa` (the hypothesis of `escape_sound`) -/
theorem trans_of_table (t : List (List Nat)) (h : transOk t = true) :
    ∀ e r c, (ofTable t).isa e r = true → (ofTable t).isa r c = true → (ofTable t).isa e c = true := by
  intro e r c h1 h2
  simp only [Lattice.isa, ofTable, Bool.or_eq_true, beq_iff_eq, List.contains_iff_mem] at h1 h2 ⊢
  rcases h1 with rfl | h1
  · exact h2
  · rcases h2 with rfl | h2
    · exact Or.inr h1
    · right
      have he : e < t.length := Nat.lt_of_not_le fun hge => by simp [List.getElem?_eq_none hge] at h1
      simp only [transOk, List.all_eq_true, List.mem_range, List.contains_iff_mem] at h
      exact h e he r h1 c h2

/-- **entry_only_allowed** If the shipped table is transitive and every class in `escapes entry` is a subclass of an
allowed class, then every exception the entry point can end with (in `Exec`: relative to the declared raise-sets
of the primitives) is an instance of an allowed class. -/
theorem entry_only_allowed (t : List (List Nat)) (allowed : List Nat) (entry : Prog)
    (ht : transOk t = true) (hall : allAllowed (ofTable t) allowed (escapes (ofTable t) entry []) = true)
    (e : Nat) (hx : Exec (ofTable t) entry none (.exc e)) :
    ∃ a ∈ allowed, (ofTable t).isa e a = true := by
  have htr := trans_of_table t ht
  obtain ⟨r, hr, hi⟩ := escape_sound (ofTable t) htr hx e rfl [] (by intro e0 h0; cases h0)
  simp only [allAllowed, List.all_eq_true, List.any_eq_true] at hall
  obtain ⟨a, ha, hra⟩ := hall r hr
  exact ⟨a, ha, htr e r a hi hra⟩

/-- classes: 0 Exception, 1 ValueError(0), 2 ProtocolError(1,0), 3 OSError(0), 4 NetworkError(3,0), 5 IndexError(0) -/
def demoTable : List (List Nat) := [[0], [1, 0], [2, 1, 0], [3, 0], [4, 3, 0], [5, 0]]
example : transOk demoTable = true := by decide

/-- `try: int(x) [ValueError]; conn.read [OSError→NetworkError] except ValueError: raise ProtocolError` -/
def demoGood : Prog := .tryH (.seq (.prim [1]) (.prim [4])) (.cons [1] (.raise 2) .nil) .skip .skip
example : allAllowed (ofTable demoTable) [2, 4] (escapes (ofTable demoTable) demoGood []) = true := by decide

/-- the same with an unguarded list index: IndexError escapes, the obligation fails -/
def demoBad : Prog := .seq demoGood (.prim [5])
example : allAllowed (ofTable demoTable) [2, 4] (escapes (ofTable demoTable) demoBad []) = false := by decide
example : Exec (ofTable demoTable) demoBad none (.exc 5) :=
  .seqNext (.tryOk (.seqNext .primOk .primOk) .skip .skip) (.primExc (List.mem_singleton.mpr rfl) (by decide))

end Wpull.Skeleton
