/-
C19 — Streaming content decoding equals one-shot decoding for every split.
zlib is an abstract `Inflater`; the only thing assumed about it is `ChunkInvariant` (monitored on the real zlib
by the harness).  Each wrapper's run is shown to be a function of the concatenated body (`wrapperSpec`); the
stream is the wrapper with `zlib.error` turned into ProtocolError.
`lengthPieces`, `effectiveFraming`, `codingOf` model once more what `HttpWire.lengthLoop`, `bodyStrategy`,
`decKind` model for C08; no Lean statement relates the two, each is tied to the code by its own driver op.
-/
import Wpull.Decomp
namespace Wpull.Decomp

/-- **Chunking invariance** of an inflater: a fresh object fed one input in any two sequences of pieces
gives the same total output and the same `eof` flag after the final flush, or the same exception.
This is the whole trusted interface to zlib. -/
def ChunkInvariant (I : Inflater) : Prop :=
  ∀ (m : Mode) (ps qs : List Bytes), ps.flatten = qs.flatten → runAll I m ps = runAll I m qs

/-- What the wrappers make of a complete inflater run: `zlib.error` unless the end of the compressed
stream was reached. -/
def finish : Except PyExc (Bytes × Bool) → Except PyExc Bytes
  | .error e => .error e
  | .ok (out, true) => .ok out
  | .ok (_, false) => .error .ZlibError

/-- The inflater a body is handed to, as a function of the coding and of the *whole* body. -/
def selectedMode : Coding → Bytes → Option Mode
  | .identity, _ => none
  | .gzip, body => if body.take 1 == [0x1f] then some .gzip else none
  | .deflate, body =>
    if body.isEmpty then none else if body.length < 2 then some .raw else some (sniffMode body)

/-- One-shot decoding: the whole body given to the selected inflater at once; a zlib error becomes
ProtocolError. -/
def spec (I : Inflater) (c : Coding) (body : Bytes) : Except PyExc Bytes :=
  match selectedMode c body with
  | none => .ok body
  | some m => toProtocol (finish (runAll I m [body]))

variable (I : Inflater)

theorem toProtocol_map (f : Bytes → Bytes) (r : Except PyExc Bytes) :
    toProtocol (Except.map f r) = Except.map f (toProtocol r) := by
  cases r <;> rfl

theorem map_nil_append (r : Except PyExc Bytes) : Except.map (fun x => [] ++ x) r = r := by
  cases r <;> rfl

/-- `finish (runFrom I s ·)` obeys the recursion by which `gzipRunFrom` and `deflRunFrom` are defined. -/
theorem finish_runFrom_nil (s : I.σ) : finish (runFrom I s []) = (simpleFlush I s).2 := by
  unfold simpleFlush runFrom
  simp only [feedAll]
  rcases I.flush s with ⟨s', e | out⟩
  · rfl
  · cases h : I.eof s' <;> simp [finish, h]

theorem finish_runFrom_cons (s : I.σ) (p : Bytes) (ps : List Bytes) :
    finish (runFrom I s (p :: ps)) =
      match I.feed s p with
      | (_, .error e) => .error e
      | (s', .ok out) => (finish (runFrom I s' ps)).map (out ++ ·) := by
  unfold runFrom
  simp only [feedAll]
  rcases I.feed s p with ⟨s', e | out⟩
  · rfl
  · dsimp only
    rcases feedAll I s' ps with ⟨s'', e | out'⟩
    · rfl
    · dsimp only
      rcases I.flush s'' with ⟨s3, e | out''⟩
      · rfl
      · cases h : I.eof s3 <;> simp [finish, Except.map, h]

theorem ChunkInvariant.one_shot {I : Inflater} (hI : ChunkInvariant I) (m : Mode) (ps : List Bytes) :
    runAll I m ps = runAll I m [ps.flatten] :=
  hI m _ _ (by simp)

/-- one-shot decoding by a wrapper used on its own (zlib.error not converted) -/
def wrapperSpec (I : Inflater) (c : Coding) (body : Bytes) : Except PyExc Bytes :=
  match selectedMode c body with
  | none => .ok body
  | some m => finish (runAll I m [body])

theorem spec_eq (c : Coding) (body : Bytes) : spec I c body = toProtocol (wrapperSpec I c body) := by
  unfold spec wrapperSpec
  cases selectedMode c body <;> rfl

theorem gzip_committed (s : I.σ) (ps : List Bytes) :
    gzipRunFrom I ⟨s, true, true⟩ ps = finish (runFrom I s ps) := by
  induction ps generalizing s with
  | nil => simp [gzipRunFrom, gzipFlush, finish_runFrom_nil]
  | cons p ps ih =>
    simp only [gzipRunFrom, gzipDecompress, finish_runFrom_cons]
    rcases I.feed s p with ⟨s', e | out⟩ <;> simp [ih]

theorem gzip_passthrough (s : I.σ) (ps : List Bytes) :
    gzipRunFrom I ⟨s, true, false⟩ ps = .ok ps.flatten := by
  induction ps with
  | nil => simp [gzipRunFrom, gzipFlush]
  | cons p ps ih => simp [gzipRunFrom, gzipDecompress, ih, Except.map]

theorem gzipDecompress_new (p : Bytes) :
    gzipDecompress I (GzipSt.new I) p = gzipDecompress I ⟨I.init .gzip, true, p.take 1 == [0x1f]⟩ p := by
  unfold gzipDecompress
  cases p.take 1 == [0x1f] <;> rfl

theorem gzip_wrapper_spec (hI : ChunkInvariant I) (ps : List Bytes) (hne : ∀ p ∈ ps, p ≠ []) :
    gzipRunFrom I (GzipSt.new I) ps = wrapperSpec I .gzip ps.flatten := by
  cases ps with
  | nil => simp [gzipRunFrom, gzipFlush, GzipSt.new, wrapperSpec, selectedMode]
  | cons p ps =>
    have htake : (p :: ps).flatten.take 1 = p.take 1 := by
      cases p with
      | nil => exact absurd rfl (hne _ (by simp))
      | cons a t => simp
    have hfirst : gzipRunFrom I (GzipSt.new I) (p :: ps)
        = gzipRunFrom I ⟨I.init .gzip, true, p.take 1 == [0x1f]⟩ (p :: ps) := by
      simp only [gzipRunFrom, gzipDecompress_new]
    rw [hfirst, wrapperSpec, selectedMode, htake]
    cases p.take 1 == [0x1f]
    · exact gzip_passthrough I _ _
    · rw [gzip_committed]; exact congrArg finish (hI.one_shot .gzip _)

theorem defl_committed (s : I.σ) (pend : Bytes) (ps : List Bytes) :
    deflRunFrom I ⟨some s, pend⟩ ps = finish (runFrom I s ps) := by
  induction ps generalizing s with
  | nil => simp [deflRunFrom, deflFlush, finish_runFrom_nil]
  | cons p ps ih =>
    simp only [deflRunFrom, deflDecompress, finish_runFrom_cons]
    rcases I.feed s p with ⟨s', e | out⟩ <;> simp [ih]

theorem sniffMode_append (v w : Bytes) (h : 2 ≤ v.length) : sniffMode (v ++ w) = sniffMode v :=
  match v, h with
  | _ :: _ :: _, _ => rfl

theorem wrapperSpec_deflate (body : Bytes) (h : 2 ≤ body.length) :
    wrapperSpec I .deflate body = finish (runAll I (sniffMode body) [body]) :=
  match body, h with
  | _ :: _ :: _, _ => rfl

theorem defl_undecided (hI : ChunkInvariant I) (pend : Bytes) (ps : List Bytes) (hpend : pend.length < 2) :
    deflRunFrom I ⟨none, pend⟩ ps = wrapperSpec I .deflate (pend ++ ps.flatten) := by
  induction ps generalizing pend with
  | nil =>
    match pend, hpend with
    | [], _ => rfl
    | [x], _ =>
      show (deflFlush I ⟨none, [x]⟩).2 = finish (runFrom I (I.init .raw) [[x]])
      simp only [deflFlush, finish_runFrom_cons, finish_runFrom_nil]
      rcases I.feed (I.init .raw) [x] with ⟨s', e | out⟩
      · rfl
      · dsimp only
        rcases simpleFlush I s' with ⟨s'', e | o2⟩ <;> rfl
  | cons p ps ih =>
    rw [List.flatten_cons, ← List.append_assoc]
    by_cases hv : (pend ++ p).length < 2
    · have : deflRunFrom I ⟨none, pend⟩ (p :: ps) = deflRunFrom I ⟨none, pend ++ p⟩ ps := by
        simp only [deflRunFrom, deflDecompress, hv, if_true, map_nil_append]
      rw [this, ih _ hv]
    · -- two bytes are there: the format is chosen from them, and they begin the body
      have : deflRunFrom I ⟨none, pend⟩ (p :: ps)
          = deflRunFrom I ⟨some (I.init (sniffMode (pend ++ p))), []⟩ ((pend ++ p) :: ps) := by
        simp only [deflRunFrom, deflDecompress, hv, if_false]
      have hv : 2 ≤ (pend ++ p).length := by omega
      rw [this, defl_committed, wrapperSpec_deflate _ _ (by rw [List.length_append]; omega),
        sniffMode_append _ _ hv]
      exact congrArg finish (hI.one_shot _ ((pend ++ p) :: ps))

theorem deflate_wrapper_spec (hI : ChunkInvariant I) (ps : List Bytes) :
    deflRunFrom I (DeflSt.new I) ps = wrapperSpec I .deflate ps.flatten :=
  defl_undecided I hI [] ps (by decide)

theorem readBodyFrom_nil (d : Dec I) : (readBodyFrom I d []).result = (flushDecompressor I d).2 := by
  unfold readBodyFrom
  rcases flushDecompressor I d with ⟨d', e | out⟩ <;> simp [Outcome.result]

theorem readBodyFrom_cons (d : Dec I) (p : Bytes) (ps : List Bytes) :
    (readBodyFrom I d (p :: ps)).result =
      match decompressData I d p with
      | (_, .error e) => .error e
      | (d', .ok out) => (readBodyFrom I d' ps).result.map (out ++ ·) := by
  rw [readBodyFrom]
  rcases decompressData I d p with ⟨d', e | out⟩
  · rfl
  · dsimp only [Outcome.result]
    cases (readBodyFrom I d' ps).err <;> simp [Except.map]

theorem stream_gzip (g : GzipSt I) (ps : List Bytes) :
    (readBodyFrom I (.gzip g) ps).result = toProtocol (gzipRunFrom I g ps) := by
  induction ps generalizing g with
  | nil => rw [readBodyFrom_nil]; rfl
  | cons p ps ih =>
    simp only [readBodyFrom_cons, decompressData, gzipRunFrom]
    rcases gzipDecompress I g p with ⟨g', e | out⟩
    · rfl
    · exact (congrArg _ (ih _)).trans (toProtocol_map _ _).symm

theorem stream_deflate (d : DeflSt I) (ps : List Bytes) :
    (readBodyFrom I (.deflate d) ps).result = toProtocol (deflRunFrom I d ps) := by
  induction ps generalizing d with
  | nil => rw [readBodyFrom_nil]; rfl
  | cons p ps ih =>
    simp only [readBodyFrom_cons, decompressData, deflRunFrom]
    rcases deflDecompress I d p with ⟨d', e | out⟩
    · rfl
    · exact (congrArg _ (ih _)).trans (toProtocol_map _ _).symm

theorem stream_identity (ps : List Bytes) :
    (readBodyFrom I .none ps).result = .ok ps.flatten := by
  induction ps with
  | nil => rfl
  | cons p ps ih => simp [readBodyFrom_cons, decompressData, ih, Except.map]

/-! A toy inflater that meets `ChunkInvariant`: `gzip` streams start `1f 8b`, `zlib` streams with a two-byte
header accepted by `isZlibHeader`, `raw` streams have no header; then `01 x` is the literal byte `x`, `00`
ends the stream, anything else is corrupt.  It keeps all input and produces its output at `flush`. -/

def toyBody : Bytes → Except PyExc (Bytes × Bool)
  | [] => .ok ([], false)
  | c :: rest =>
    if c = 0 then .ok ([], true)
    else if c = 1 then
      match rest with
      | [] => .ok ([], false)
      | x :: rest' => (toyBody rest').map (fun r => (x :: r.1, r.2))
    else .error .ZlibError

def toyDecode : Mode → Bytes → Except PyExc (Bytes × Bool)
  | .raw, acc => toyBody acc
  | .gzip, acc =>
    match acc with
    | [] => .ok ([], false)
    | [a] => if a = 0x1f then .ok ([], false) else .error .ZlibError
    | a :: b :: rest => if a = 0x1f ∧ b = 0x8b then toyBody rest else .error .ZlibError
  | .zlib, acc =>
    match acc with
    | [] => .ok ([], false)
    | [_] => .ok ([], false)
    | a :: b :: rest => if isZlibHeader [a, b] then toyBody rest else .error .ZlibError

def toy : Inflater where
  σ := Mode × Bytes
  init m := (m, [])
  feed s d := ((s.1, s.2 ++ d), .ok [])
  flush s := (s, match toyDecode s.1 s.2 with
                 | .ok r => .ok r.1
                 | .error e => .error e)
  eof s := match toyDecode s.1 s.2 with
           | .ok r => r.2
           | .error _ => false

theorem toy_feedAll (s : toy.σ) (ps : List Bytes) :
    feedAll toy s ps = ((s.1, s.2 ++ ps.flatten), .ok []) := by
  -- `toy.σ` is `Mode × Bytes` only after unfolding `toy`, which `simp` does not do: each case ends in `rfl`
  induction ps generalizing s with
  | nil => simp only [List.flatten_nil, List.append_nil]; rfl
  | cons p ps ih =>
    rw [feedAll, show toy.feed s p = ((s.1, s.2 ++ p), .ok []) from rfl]
    simp only [ih (s.1, s.2 ++ p), List.append_assoc]
    rfl

/-- **C19, non-vacuity.**  The hypothesis can be met: the toy inflater only buffers, so a run depends on the
concatenation of its pieces alone. -/
theorem toy_chunkInvariant : ChunkInvariant toy := by
  intro m ps qs h
  simp only [runAll, runFrom, toy_feedAll, h]

/-- **C19, first sentence.**  Streaming decoding in any sequence of non-empty pieces yields, after the
final flush, exactly what decoding the whole body at once yields (content or error class) — for gzip,
zlib-wrapped deflate, raw deflate and identity bodies alike. -/
theorem stream_equals_one_shot (hI : ChunkInvariant I) (c : Coding) (ps : List Bytes)
    (hne : ∀ p ∈ ps, p ≠ []) :
    readBody I c ps = spec I c ps.flatten := by
  rw [spec_eq]
  cases c with
  | gzip => exact (stream_gzip I _ ps).trans (congrArg _ (gzip_wrapper_spec I hI ps hne))
  | deflate => exact (stream_deflate I _ ps).trans (congrArg _ (deflate_wrapper_spec I hI ps))
  | identity => exact stream_identity I ps

theorem stream_split_invariant (hI : ChunkInvariant I) (c : Coding) (ps qs : List Bytes)
    (hps : ∀ p ∈ ps, p ≠ []) (hqs : ∀ q ∈ qs, q ≠ []) (h : ps.flatten = qs.flatten) :
    readBody I c ps = readBody I c qs := by
  rw [stream_equals_one_shot I hI c ps hps, stream_equals_one_shot I hI c qs hqs, h]

/-- `GzipDecompressor` used on its own: the magic is sniffed on the first piece, yet every split into
non-empty pieces gives the same result. -/
theorem gzip_wrapper_split_invariant (hI : ChunkInvariant I) (ps qs : List Bytes)
    (hps : ∀ p ∈ ps, p ≠ []) (hqs : ∀ q ∈ qs, q ≠ []) (h : ps.flatten = qs.flatten) :
    gzipRunFrom I (GzipSt.new I) ps = gzipRunFrom I (GzipSt.new I) qs := by
  rw [gzip_wrapper_spec I hI ps hps, gzip_wrapper_spec I hI qs hqs, h]

/-- `DeflateDecompressor` used on its own: the zlib / raw deflate decision does not depend on the first
piece (DESIGN.md section 7 #3) — every split gives the same result, empty pieces and one-byte first
pieces included. -/
theorem deflate_wrapper_split_invariant (hI : ChunkInvariant I) (ps qs : List Bytes)
    (h : ps.flatten = qs.flatten) :
    deflRunFrom I (DeflSt.new I) ps = deflRunFrom I (DeflSt.new I) qs := by
  rw [deflate_wrapper_spec I hI ps, deflate_wrapper_spec I hI qs, h]

theorem identity_split_invariant (ps : List Bytes) : readBody I .identity ps = .ok ps.flatten :=
  stream_identity I ps

/-- gzip stream "AB" in three pieces, the first one a single byte -/
example : readBody toy .gzip [[0x1f], [0x8b, 1], [65, 1, 66, 0]] = .ok [65, 66] := by decide +kernel
example : readBody toy .gzip [[0x1f, 0x8b, 1, 65, 1, 66, 0]] = .ok [65, 66] := by decide +kernel
/-- raw deflate, first piece one byte (the input of DESIGN.md section 7 #3) -/
example : readBody toy .deflate [[1], [65], [0]] = .ok [65] := by decide +kernel
/-- zlib-wrapped deflate, header split over two pieces -/
example : readBody toy .deflate [[0x78], [0x9c, 1, 65, 0]] = .ok [65] := by decide +kernel
/-- no magic: passthrough -/
example : readBody toy .gzip [[60], [0x1f, 0x8b]] = .ok [60, 0x1f, 0x8b] := by decide +kernel
example : isZlibHeader [0x78, 0x9c] = true ∧ isZlibHeader [0x78, 0xbb] = false ∧ isZlibHeader [0x4b, 0xcb] = false := by decide +kernel

/-- The non-emptiness of the pieces cannot be dropped for gzip: an empty first piece is taken for "no
magic" (`b''[:1] != b'\x1f'`).  The stream never hands the decoder an empty piece (an empty read ends
each body loop). -/
theorem gzip_empty_first_piece_counterexample :
    readBody toy .gzip [[], [0x1f, 0x8b, 0]] ≠ readBody toy .gzip [[0x1f, 0x8b, 0]] := by decide +kernel

theorem spec_of_selected {c : Coding} {body : Bytes} {m : Mode} (hm : selectedMode c body = some m) :
    spec I c body = toProtocol (finish (runAll I m [body])) := by
  rw [spec, hm]

theorem toProtocol_finish_ok {r : Except PyExc (Bytes × Bool)} {content : Bytes}
    (h : toProtocol (finish r) = .ok content) : r = .ok (content, true) := by
  rcases r with e | ⟨o, _ | _⟩ <;> cases h
  rfl

/-- **C19, second sentence (truncated).**  If the inflater selected for the body, given the whole body,
has not reached the end of the compressed stream after the final flush (`eof = false`: data cut short),
the stream raises ProtocolError — under every split. -/
theorem truncated_is_protocol_error (hI : ChunkInvariant I) (c : Coding) (ps : List Bytes)
    (hne : ∀ p ∈ ps, p ≠ []) (m : Mode) (out : Bytes)
    (hm : selectedMode c ps.flatten = some m)
    (htr : runAll I m [ps.flatten] = .ok (out, false)) :
    readBody I c ps = .error .ProtocolError := by
  rw [stream_equals_one_shot I hI c ps hne, spec_of_selected I hm, htr]
  rfl

/-- **C19, second sentence (corrupt).**  If the selected inflater rejects the whole body (`zlib.error`),
the stream raises ProtocolError — under every split. -/
theorem corrupt_is_protocol_error (hI : ChunkInvariant I) (c : Coding) (ps : List Bytes)
    (hne : ∀ p ∈ ps, p ≠ []) (m : Mode)
    (hm : selectedMode c ps.flatten = some m)
    (hc : runAll I m [ps.flatten] = .error .ZlibError) :
    readBody I c ps = .error .ProtocolError := by
  rw [stream_equals_one_shot I hI c ps hne, spec_of_selected I hm, hc]
  rfl

/-- truncated gzip (DESIGN.md section 7 #21): hypotheses of `truncated_is_protocol_error` hold, conclusion by the theorem -/
example : readBody toy .gzip [[0x1f, 0x8b], [1, 65]] = .error .ProtocolError :=
  truncated_is_protocol_error toy toy_chunkInvariant .gzip _ (by decide) .gzip [65] (by decide) (by decide)
example : readBody toy .deflate [[1]] = .error .ProtocolError := by decide +kernel
/-- corrupt -/
example : readBody toy .gzip [[0x1f], [0x8b, 7]] = .error .ProtocolError :=
  corrupt_is_protocol_error toy toy_chunkInvariant .gzip _ (by decide) .gzip (by decide) (by decide)

/-- **Never partial content.**  Whatever the stream returns as content is either the unchanged body (no
inflater selected) or the *complete* output of the selected inflater over the whole body, end of stream
reached. -/
theorem content_only_if_complete (hI : ChunkInvariant I) (c : Coding) (ps : List Bytes)
    (hne : ∀ p ∈ ps, p ≠ []) (content : Bytes) (h : readBody I c ps = .ok content) :
    (selectedMode c ps.flatten = none ∧ content = ps.flatten) ∨
    ∃ m, selectedMode c ps.flatten = some m ∧ runAll I m [ps.flatten] = .ok (content, true) := by
  rw [stream_equals_one_shot I hI c ps hne] at h
  cases hm : selectedMode c ps.flatten with
  | none =>
    rw [spec, hm] at h
    exact .inl ⟨rfl, (Except.ok.inj h).symm⟩
  | some m => exact .inr ⟨m, rfl, toProtocol_finish_ok (spec_of_selected I hm ▸ h)⟩

theorem Outcome.observed_error_iff (o : Outcome I) (keep : Bool) (e : PyExc) :
    o.observed I keep = .error e ↔ o.result I = .error e := by
  unfold Outcome.observed
  cases keep <;> cases o.result I <;> simp [Except.map]

/-- **The verdict does not depend on whether the caller keeps the body.**  With `file=None`
(`observed false`) the result is an exception exactly when it is one with a file, and it is the same
exception: the final flush — where a truncated stream is detected — runs unconditionally. -/
theorem discarded_body_same_verdict (c : Coding) (ps : List Bytes) (e : PyExc) :
    Outcome.observed I (readBodyFrom I (setup I c) ps) false = .error e ↔ readBody I c ps = .error e :=
  Outcome.observed_error_iff I _ false e

theorem truncated_is_protocol_error_without_file (hI : ChunkInvariant I) (c : Coding) (ps : List Bytes)
    (hne : ∀ p ∈ ps, p ≠ []) (m : Mode) (out : Bytes)
    (hm : selectedMode c ps.flatten = some m)
    (htr : runAll I m [ps.flatten] = .ok (out, false)) :
    Outcome.observed I (readBodyFrom I (setup I c) ps) false = .error .ProtocolError :=
  (discarded_body_same_verdict I c ps _).2 (truncated_is_protocol_error I hI c ps hne m out hm htr)

example : Outcome.observed toy (readBodyFrom toy (setup toy .gzip) [[0x1f, 0x8b], [1, 65]]) false = .error .ProtocolError := by decide +kernel
example : Outcome.observed toy (readBodyFrom toy (setup toy .gzip) [[0x1f, 0x8b], [1, 65, 0]]) false = .ok [] := by decide +kernel

/-- **Decoder state is per response.**  When one Stream object reads a sequence of responses, every body
is decoded exactly as if it were the only response ever read through a fresh Stream — whatever decoder
state `d` the object starts with and whatever came before (a finished gzip stream, a failed one, …).  By
definition: `setupDecompressor` ignores the previous decoder; tied to `_setup_decompressor` by the `seq`
streams. -/
theorem sequence_is_per_response (d : Dec I) (rs : List (Option Str × List Bytes)) :
    readSeqFrom I d rs = rs.map (fun r => readBody I (codingOf (r.1.getD [])) r.2) := by
  induction rs generalizing d with
  | nil => rfl
  | cons r rs ih => exact congrArg _ (ih _)

theorem kth_body_independent_of_prefix (d : Dec I) (pre post : List (Option Str × List Bytes))
    (enc : Option Str) (ps : List Bytes) :
    (readSeqFrom I d (pre ++ (enc, ps) :: post))[pre.length]? =
      some (readBody I (codingOf (enc.getD [])) ps) := by
  rw [sequence_is_per_response]
  simp

/-- an identity body after a gzip body on the same Stream (the input of seeded change C19-3) -/
example : readSeqFrom toy .none [(some (lit "gzip"), [[0x1f, 0x8b, 1, 65, 0]]), (none, [[104, 105]])]
    = [.ok [65], .ok [104, 105]] := by decide +kernel

/-- `--ignore-length` never changes how a chunked body is read (by definition of `effectiveFraming`; tied
to the reader that really ran by the `framing` driver op). -/
theorem ignore_length_keeps_chunked (ignoreLength lengthParses : Bool) :
    effectiveFraming ignoreLength lengthParses .chunked = .chunked := rfl

/-- the only framing `ignore_length` / an unparseable length can change is `length`, and only to `close` -/
theorem effective_framing_cases (il lp : Bool) (f : Framing) :
    effectiveFraming il lp f = f ∨ (f = .length ∧ (il = true ∨ lp = false) ∧ effectiveFraming il lp f = .close) := by
  cases f <;> cases il <;> cases lp <;> simp [effectiveFraming]

/-- Content-Length framing hands the decoder exactly the first `n` bytes of what the connection delivered,
in non-empty pieces — for every way the network cut the stream into reads (an over-sending server's
surplus never reaches the decoder). -/
theorem length_pieces_take (n : Nat) (reads : List Bytes) (hne : ∀ r ∈ reads, r ≠ []) :
    (lengthPieces n reads).flatten = reads.flatten.take n ∧ ∀ p ∈ lengthPieces n reads, p ≠ [] := by
  fun_induction lengthPieces n reads with
  | case1 => simp
  | case2 n r rs h =>
    have := h.resolve_right (hne r (by simp))
    simp [this]
  | case3 n r rs _ hle ih =>
    obtain ⟨hr, hrs⟩ := List.forall_mem_cons.1 hne
    obtain ⟨ih1, ih2⟩ := ih hrs
    exact ⟨by simp [ih1, List.take_append, List.take_of_length_le hle], List.forall_mem_cons.2 ⟨hr, ih2⟩⟩
  | case4 n r rs h hle =>
    have : n - r.length = 0 := by omega
    refine ⟨by simp [List.take_append, this], ?_⟩
    simp only [List.mem_singleton, forall_eq, ne_eq, List.take_eq_nil_iff, not_or]
    exact ⟨fun e => h (.inl e), hne r (by simp)⟩

/-- **Length-framed body = one-shot decoding of exactly the first `n` bytes**, for every segmentation of
the connection's byte stream into reads and whatever the server sends beyond the declared length. -/
theorem length_framed_body_is_take_n (hI : ChunkInvariant I) (c : Coding) (n : Nat)
    (reads : List Bytes) (hne : ∀ r ∈ reads, r ≠ []) :
    readBody I c (lengthPieces n reads) = spec I c (reads.flatten.take n) := by
  obtain ⟨h1, h2⟩ := length_pieces_take n reads hne
  rw [stream_equals_one_shot I hI c _ h2, h1]

/-- an over-sending server, body delivered in two reads, surplus in the second (seeded change C19-11) -/
example : lengthPieces 5 [[1, 2, 3], [4, 5, 6, 7]] = [[1, 2, 3], [4, 5]] := by decide +kernel
example : readBody toy .identity (lengthPieces 5 [[1, 2, 3], [4, 5, 6, 7]]) = .ok [1, 2, 3, 4, 5] := by decide +kernel

/-- **The decoding decision depends on Content-Encoding alone**: Content-Type (`application/gzip`, …),
Content-Disposition and the URL (`….gz`) are irrelevant.  By definition: `setupFromResponse` reads no
other field of `ResponseInfo`; tied by the `headers` stream. -/
theorem decoding_depends_on_content_encoding_only (d₁ d₂ : Dec I) (r₁ r₂ : ResponseInfo)
    (h : r₁.contentEncoding = r₂.contentEncoding) :
    setupFromResponse I d₁ r₁ = setupFromResponse I d₂ r₂ := by
  simp [setupFromResponse, setupDecompressor, h]

/-- **Frame property of decoder objects.**  With any number of decoder objects alive at once and any
interleaving of calls (objects abandoned after 0, 1, 2 bytes, mid-stream, after an error, without flush,
…), the results object `i` produces are exactly those it produces on its own over the calls *it*
received: what other decoder objects were fed or left behind cannot matter. -/
theorem frame_property (step : Dec I → HOp → Dec I × Except PyExc Bytes)
    (pool : List (Dec I)) (sched : List (Nat × HOp)) (i : Nat) (d : Dec I) (hd : pool[i]? = some d) :
    ((runSchedule I step pool sched).filter (fun x => x.1 == i)).map (·.2) =
      (runAlone I step d ((sched.filter (fun x => x.1 == i)).map (·.2))).2 := by
  fun_induction runSchedule I step pool sched generalizing d with
  | case1 => rfl
  | case2 pool j op rest hj ih =>
    have hb : (j == i) = false := by
      rw [beq_eq_false_iff_ne]; rintro rfl; rw [hd] at hj; cases hj
    simpa only [List.filter_cons, hb, Bool.false_eq_true, if_false] using ih d hd
  | case3 pool j op rest dj hj r ih =>
    by_cases hji : j = i
    · subst hji
      cases hd.symm.trans hj
      have hlt : j < pool.length := (List.getElem?_eq_some_iff.1 hj).1
      simp only [List.filter_cons, beq_self_eq_true, if_true, List.map_cons, runAlone]
      rw [ih _ (List.getElem?_set_self hlt)]
    · have hb : (j == i) = false := by simpa using hji
      simpa only [List.filter_cons, hb, Bool.false_eq_true, if_false] using
        ih d (by rw [List.getElem?_set_ne hji]; exact hd)

/-- two deflate decoders alive at once; the first is abandoned holding one byte (seeded change C19-15) -/
example : runSchedule toy (Dec.step toy) [setup toy .deflate, setup toy .deflate]
    [(0, .feed [0x78]), (1, .feed [0x78, 0x9c, 1, 65, 0]), (1, .flush)]
    = [(0, .ok []), (1, .ok []), (1, .ok [65])] := by decide +kernel

/-- **The web layer never requests raw mode**, whatever timeout is configured (by definition of
`webDownloadArgs`; tied to `WebSession.download` by the `web` stream). -/
theorem web_never_raw (keepFile : Bool) (timeout : Option Nat) :
    (webDownloadArgs keepFile timeout).raw = false := rfl

/-- Fetching through `WebSession.download` with a file decodes exactly as the Stream does, for every
configured timeout (by definition of `webDownload`): the stream-level theorems above (split invariance,
truncated / corrupt ⇒ ProtocolError) apply to the crawler's fetch. -/
theorem web_download_decodes (timeout : Option Nat) (enc : Option Str) (ps : List Bytes) :
    webDownload I true timeout enc ps = readBody I (codingOf (enc.getD [])) ps := rfl

/-- With or without a file, `WebSession.download` raises what the Stream raises. -/
theorem web_download_verdict (keepFile : Bool) (timeout : Option Nat) (enc : Option Str)
    (ps : List Bytes) (e : PyExc) :
    webDownload I keepFile timeout enc ps = .error e ↔
      readBody I (codingOf (enc.getD [])) ps = .error e :=
  Outcome.observed_error_iff I _ keepFile e

/-- a truncated gzip body fetched with a session timeout of 5 s (the input of seeded change C19-7) -/
example : webDownload toy true (some 5000) (some (lit "gzip")) [[0x1f, 0x8b], [1, 65]] = .error .ProtocolError := by decide +kernel
example : webDownload toy true (some 5000) (some (lit "gzip")) [[0x1f, 0x8b], [1, 65, 0]] = .ok [65] := by decide +kernel
/-- what raw mode would do instead (not reachable from the web layer) -/
example : sessionDownload toy ⟨true, true, true, none⟩ (some (lit "gzip")) [[0x1f, 0x8b], [1, 65]] = .ok [0x1f, 0x8b, 1, 65] := by decide +kernel

end Wpull.Decomp
