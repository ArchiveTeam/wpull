/-
C08, truncation: a message that the framing rules delimit without the peer's EOF has no strict prefix
that, followed by EOF, is accepted as a complete message.  Each framing layer of `rfc` reads a message it
has delimited identically whatever follows (`…_ext`; with any extra fuel, since `rfc` takes its fuel from
the length of the stream), hence `spec_prefix_free`; the reader follows by `agrees_with_spec`.  Then the
peer's reset, which never stands for the close that delimits a message; last, `segments_are_schedules`.
-/
import Proofs.C08
import Proofs.Lemmas.Lines
namespace Wpull.HttpWire
open Wpull.Ftp

variable {D : Type} {dc : Decoder D}

theorem readlineFlat_cut_or_ext {p : Bytes} {eof : Bool} {l r : Bytes} (h : readlineFlat p eof = .line l r) :
    ((l.getLast? != some 10) = true ∧ r = []) ∨
    ∀ (x : Bytes) (eof' : Bool), readlineFlat (p ++ x) eof' = .line l (r ++ x) := by
  unfold readlineFlat at h ⊢
  cases hf : findLF p with
  | none =>
    simp only [hf] at h
    have := findLF_eq_none.mp hf
    split at h
    · cases h
    · split at h <;> cases h
      exact .inl ⟨by simpa using fun hl => this (List.mem_of_getLast? hl), rfl⟩
  | some i =>
    simp only [hf] at h
    have hle : i + 1 ≤ p.length := (findLF_some hf).1
    split at h <;> cases h
    refine .inr fun x eof' => ?_
    rw [findLF_append_some hf]
    simp only [*, if_false, List.take_append_of_le_length hle, List.drop_append_of_le_length hle]

theorem readlineFlat_ext {p : Bytes} {eof : Bool} {l r : Bytes} (h : readlineFlat p eof = .line l r)
    (hl : ¬ (l.getLast? != some 10) = true) (x : Bytes) (eof' : Bool) :
    readlineFlat (p ++ x) eof' = .line l (r ++ x) :=
  (readlineFlat_cut_or_ext h).resolve_left (fun h' => hl h'.1) x eof'

theorem specHead_ext {fuel : Nat} {p : Bytes} {eof : Bool} {ls : List Bytes} {n : Nat} {b nt r : Bytes}
    (h : specHead fuel p eof ls n = .ok b nt r) (k : Nat) (x : Bytes) (eof' : Bool) :
    specHead (fuel + k) (p ++ x) eof' ls n = .ok b nt (r ++ x) := by
  fun_induction specHead fuel p eof ls n with
  | case6 _ _ _ _ _ _ _ hrl hl =>
    cases h
    rw [Nat.succ_add, specHead, readlineFlat_ext hrl hl]
    simp [*]
  | case8 _ _ _ _ _ _ _ hrl hl _ _ ih =>
    rw [Nat.succ_add, specHead, readlineFlat_ext hrl hl]
    simp [*, ih h]
  | _ => cases h

theorem specTrailer_ext {fuel : Nat} {p : Bytes} {eof : Bool} {acc t r : Bytes}
    (h : specTrailer fuel p eof acc = .ok t r) (k : Nat) (x : Bytes) (eof' : Bool) :
    specTrailer (fuel + k) (p ++ x) eof' acc = .ok t (r ++ x) := by
  fun_induction specTrailer fuel p eof acc with
  | case5 _ _ _ _ _ _ hrl hl =>
    cases h
    rw [Nat.succ_add, specTrailer, readlineFlat_ext hrl hl]
    simp [*]
  | case6 _ _ _ _ _ _ hrl hl _ ih =>
    rw [Nat.succ_add, specTrailer, readlineFlat_ext hrl hl]
    simp [*, ih h]
  | _ => cases h

theorem specLength_ext {n : Nat} {p : Bytes} {eof : Bool} {a a' : Acc D} {r : Bytes}
    (h : specLength dc n p eof a = .ok a' r) (x : Bytes) (eof' : Bool) :
    specLength dc n (p ++ x) eof' a = .ok a' (r ++ x) := by
  obtain ⟨hle, hd, rfl⟩ := specLength_ok h
  unfold specLength feedThen
  rw [if_pos (by simp; omega), List.take_append_of_le_length hle, hd, List.drop_append_of_le_length hle]

theorem specChunked_nil_not_ok {fuel0 fuel : Nat} {eof : Bool} {a a' : Acc D} {t r : Bytes} :
    specChunked dc fuel0 fuel [] eof a ≠ .ok a' t r := by
  cases fuel <;> cases eof <;> simp [specChunked, readlineFlat, findLF]

theorem specChunked_ext {fuel0 fuel : Nat} {p : Bytes} {eof : Bool} {a a' : Acc D} {t r : Bytes}
    (h : specChunked dc fuel0 fuel p eof a = .ok a' t r) (k : Nat) (x : Bytes) (eof' : Bool) :
    specChunked dc (fuel0 + k) (fuel + k) (p ++ x) eof' a = .ok a' t (r ++ x) := by
  fun_induction specChunked dc fuel0 fuel p eof a with
  | case9 fuel p eof a l r1 hrl hl a1 a2 hfl t' r2 htr hsz =>
    -- last chunk: size line, trailer section
    cases h
    rw [Nat.succ_add, specChunked, readlineFlat_ext hrl hl]
    simp +zetaDelta [*, specTrailer_ext htr k x eof']
  | case14 fuel p eof a l r1 hrl hl size hsz a1 hz hle a2 hd nl r3 hrl2 hlen ih =>
    -- a chunk: size line, data, line end; then the chunks after it
    rw [Nat.succ_add, specChunked, readlineFlat_ext hrl hl]
    rcases readlineFlat_cut_or_ext hrl2 with ⟨_, rfl⟩ | hx
    · -- the line end was cut by the peer's close: nothing is left for the next size line
      exact absurd h specChunked_nil_not_ok
    · have hle' := Nat.le_add_right_of_le (k := x.length) hle
      simp +zetaDelta [*, List.take_append_of_le_length hle, List.drop_append_of_le_length hle, ih h]
  | _ => cases h

def Outcome.isOk : Outcome → Bool
  | .ok _ _ _ => true
  | _ => false

theorem Outcome.isOk_iff {o : Outcome} : o.isOk = true ↔ ∃ st f b, o = .ok st f b := by
  cases o <;> simp [Outcome.isOk]

theorem specClose_open_not_ok (r : Bytes) (a : Acc D) (w : Wire) (st : Status) (f : Fields) (sc : Bool) :
    (finishSpec dc w st f sc (specClose dc r false a)).outcome.isOk = false := by
  unfold specClose feedThen
  cases a.data dc r <;> rfl

theorem specBody_prefix_free {cfg : StreamCfg} {req : ReqInfo} {fuel : Nat} {st : Status} {f : Fields}
    {r nt p x : Bytes} (hx : x ≠ []) (k : Nat)
    (hp : (specBody dc cfg req fuel st f r nt ⟨p, true⟩).outcome.isOk = true) :
    ¬ ((specBody dc cfg req (fuel + k) st f (r ++ x) nt ⟨p ++ x, false⟩).outcome.isOk = true ∧
      (specBody dc cfg req (fuel + k) st f (r ++ x) nt ⟨p ++ x, false⟩).rest = []) := by
  unfold specBody at hp ⊢
  rintro ⟨hok, hr⟩
  -- chunked or length framing reads the body identically whatever follows, so `x` is left over;
  -- a body delimited by the close is no complete message on an open stream
  cases hs : bodyStrategy cfg f <;> simp only [hs] at hp hok hr
  · obtain ⟨a, t, r', o, hb, _⟩ := finishChunkedSpec_ok (Outcome.isOk_iff.mp hp)
    obtain ⟨_, _, _, _, hb', hs'⟩ := finishChunkedSpec_ok (Outcome.isOk_iff.mp hok)
    rw [specChunked_ext hb k x false] at hb'
    cases hb'
    exact hx (List.append_eq_nil_iff.mp (hs' ▸ hr)).2
  · cases hc : contentLength? ((f.get? sContentLength).getD []) <;> simp only [hc] at hp hok hr
    · rw [specClose_open_not_ok] at hok; cases hok
    · obtain ⟨a, r', o, hb, _⟩ := finishSpec_ok (Outcome.isOk_iff.mp hp)
      obtain ⟨_, _, _, hb', hs'⟩ := finishSpec_ok (Outcome.isOk_iff.mp hok)
      rw [specLength_ext hb x false] at hb'
      cases hb'
      exact hx (List.append_eq_nil_iff.mp (hs' ▸ hr)).2
  · rw [specClose_open_not_ok] at hok; cases hok

/-- **C08 `spec_prefix_free`.**  The specification is prefix-free on self-delimiting messages: if the bytes
`p` followed by EOF are a complete message, then `p` followed by more bytes is never a complete message
that ends exactly at the end of the stream. -/
theorem spec_prefix_free (cfg : StreamCfg) (req : ReqInfo) (p x : Bytes) (hx : x ≠ [])
    (hp : (rfc dc cfg req ⟨p, true⟩).outcome.isOk = true) :
    ¬ ((rfc dc cfg req ⟨p ++ x, false⟩).outcome.isOk = true ∧ (rfc dc cfg req ⟨p ++ x, false⟩).rest = []) := by
  obtain ⟨block, nt, r, st, f, hh, hpr⟩ := head_of_rfc_ok (Outcome.isOk_iff.mp hp)
  have hfuel : (p ++ x).length + 2 = p.length + 2 + x.length := by rw [List.length_append, Nat.add_right_comm]
  rw [rfc_of_head hh hpr] at hp
  rw [rfc_of_head (w := ⟨p ++ x, false⟩) (hfuel ▸ specHead_ext hh x.length x false) hpr, hfuel]
  by_cases hnb : isNoBody req st = true
  · rw [if_pos hnb]
    exact fun ⟨_, hr⟩ => hx (List.append_eq_nil_iff.mp hr).2
  · rw [if_neg hnb] at hp ⊢
    exact specBody_prefix_free hx _ hp

/-- **C08 `truncation_is_error`.**  Let `p ++ x` be a complete message by the framing rules that needs no
EOF to be delimited (Content-Length or chunked framing, or a status that forbids a body) and ends exactly
where the stream ends.  If the peer sends only the strict prefix `p` and closes — wherever the cut falls:
header block, chunk-size line, chunk data, length-delimited body, between CR and LF, trailer section —
then for every schedule the reader does not report a successful download.  (Read-until-close framing is
excluded by the hypothesis: there the peer's close *is* the delimiter.) -/
theorem truncation_is_error (h : dc.Hom) (cfg : StreamCfg) (req : ReqInfo) (σ : List Nat) (p x : Bytes)
    (hx : x ≠ [])
    (hfull : (rfc dc cfg req ⟨p ++ x, false⟩).outcome.isOk = true)
    (hexact : (rfc dc cfg req ⟨p ++ x, false⟩).rest = []) :
    (decode dc cfg req σ ⟨p, true⟩).outcome.isOk = false := by
  rw [(agrees_with_spec h cfg req σ ⟨p, true⟩).outcome]
  exact Bool.eq_false_iff.mpr fun hb => spec_prefix_free cfg req p x hx hb ⟨hfull, hexact⟩

/-- the chunked example message is such a complete message, and its prefixes cut in the trailer /
in the chunk data are refused -/
example : (rfc idDecoder {} {} ⟨exChunked.bytes, false⟩).outcome.isOk = true ∧
    (rfc idDecoder {} {} ⟨exChunked.bytes, false⟩).rest = [] := by
  rw [exChunked]; repeat rw [lit_ofList]
  decide +kernel
example : (decode idDecoder {} {} [] ⟨exChunked.bytes.take 62, true⟩).outcome = .exc .NetworkError := by
  rw [exChunked]; repeat rw [lit_ofList]
  decide +kernel
example : (decode idDecoder {} {} [] ⟨exChunked.bytes.take 52, true⟩).outcome = .exc .NetworkError := by
  rw [exChunked]; repeat rw [lit_ofList]
  decide +kernel

/-- **C08 `reset_is_never_complete`.**  If the peer ends what it sends with a reset (RST) instead of an
orderly close, the reader reports success only when the message was already complete by its own framing
with the connection still open: a reset never plays the part of the close that delimits a message. -/
theorem reset_is_never_complete (h : dc.Hom) (cfg : StreamCfg) (req : ReqInfo) (σ : List Nat) (b : Bytes)
    (hok : (decodeE dc cfg req σ b .reset).outcome.isOk = true) :
    (rfc dc cfg req ⟨b, false⟩).outcome.isOk = true ∧
    (decodeE dc cfg req σ b .reset) = decode dc cfg req σ ⟨b, false⟩ := by
  unfold decodeE at hok ⊢
  by_cases hst : ((decode dc cfg req σ ⟨b, false⟩).outcome == Outcome.stalled) = true
  · rw [if_pos hst] at hok; cases hok
  · rw [if_neg hst] at hok ⊢
    exact ⟨(agrees_with_spec h cfg req σ ⟨b, false⟩).outcome ▸ hok, rfl⟩

/-- **C08 `close_delimited_needs_close`.**  A response delimited by the end of the connection (no usable
Content-Length, not chunked, or `--ignore-length`) is complete only if the peer closed: followed by a
reset — or by nothing — it is never a successful download, wherever the stream stops. -/
theorem close_delimited_needs_close (h : dc.Hom) (cfg : StreamCfg) (req : ReqInfo) (σ : List Nat) (b : Bytes)
    (block nt r : Bytes) (st : Status) (f : Fields)
    (hhead : specHead (b.length + 2) b false [] 0 = .ok block nt r)
    (hparse : parseResponse block = .ok (st, f))
    (hnb : isNoBody req st = false)
    (hclose : bodyStrategy cfg f = .close ∨
      (bodyStrategy cfg f = .length ∧ contentLength? ((f.get? sContentLength).getD []) = none)) :
    (decodeE dc cfg req σ b .reset).outcome.isOk = false ∧
    (decodeE dc cfg req σ b .stillOpen).outcome.isOk = false := by
  have hspec : (rfc dc cfg req ⟨b, false⟩).outcome.isOk = false := by
    rw [rfc_of_head hhead hparse, hnb]
    unfold specBody
    rcases hclose with hc | ⟨hl, hn⟩
    · simp only [hc]; exact specClose_open_not_ok ..
    · simp only [hl, hn]; exact specClose_open_not_ok ..
  constructor
  · exact Bool.eq_false_iff.mpr fun hb =>
      Bool.false_ne_true (hspec ▸ (reset_is_never_complete h cfg req σ b hb).1)
  · exact (agrees_with_spec h cfg req σ ⟨b, false⟩).outcome ▸ hspec

example : (decodeE idDecoder {} {} [] (lit "HTTP/1.0 200 OK\r\n\r\npart of the bo") .reset).outcome = .exc .NetworkError ∧
    (decodeE idDecoder {} {} [] (lit "HTTP/1.0 200 OK\r\n\r\npart of the bo") .closed).outcome.isOk = true ∧
    (decodeE idDecoder {} {} [] exMsg.bytes .reset).outcome.isOk = true := by
  rw [exMsg]; repeat rw [lit_ofList]
  decide +kernel

/-- **C08 `segments_are_schedules`.**  `StreamReader.read(n)` returns `min n |buf|` bytes of a non-empty
buffer `buf` (model `SR.step`, tied to asyncio by the `sr` stream; the statement does not mention it),
and the buffer is a prefix of the outstanding bytes: that size is one some schedule gives for them. -/
theorem segments_are_schedules (buf later : Bytes) (n : Nat) (hn : 0 < n) (hb : buf ≠ []) (t : List Nat) :
    ∃ s, readSize (s :: t) n (buf ++ later).length = (buf.take n).length := by
  have hpos : 0 < buf.length := List.length_pos_iff.mpr hb
  refine ⟨(buf.take n).length - 1, readSize_surjective n _ _ ?_ ?_ t⟩
  · simp only [List.length_take]; omega
  · simp only [List.length_take, List.length_append]; omega

end Wpull.HttpWire
