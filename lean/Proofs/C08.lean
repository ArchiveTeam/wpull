/-
C08 — HTTP/1.1 responses are delimited per RFC 7230 whatever the segmentation.
Each loop of the reader of `Wpull.HttpWire` is compared with its slice of the flat stream in the read-free
specification `rfc` (`read_cases`, `readline_cases`: what the two transport calls do to the outstanding bytes
under any schedule); `agrees_with_spec` puts the parts together, the framing theorems are its corollaries,
all under the hypothesis `Decoder.Hom`.  Apart from these: links and sessions, the body file.
`rfc` runs its line loops on the fuel `|w| + 2` of `decode`; out of fuel both answer `.exc .RecursionError`
(the model's marker), and no theorem says that this never happens.
-/
import Wpull.HttpWireSpec
import Proofs.Lemmas.Lit
namespace Wpull.HttpWire
open Wpull.Ftp

theorem readSize_bounds (σ : List Nat) (n avail : Nat) (hn : 0 < n) (ha : 0 < avail) :
    1 ≤ readSize σ n avail ∧ readSize σ n avail ≤ min n avail := by
  cases σ with
  | nil => simp only [readSize]; omega
  | cons s t =>
    have := Nat.mod_lt s (show 0 < min n avail by omega)
    simp only [readSize]; omega

theorem readSize_surjective (n avail k : Nat) (h1 : 1 ≤ k) (h2 : k ≤ min n avail) (t : List Nat) :
    readSize ((k - 1) :: t) n avail = k := by
  simp only [readSize, Nat.mod_eq_of_lt (show k - 1 < min n avail by omega)]
  omega

theorem read_cases (c : Conn) (n : Nat) (hn : 0 < n) :
    (c.rest = [] ∧ c.eof = true ∧ ∃ c', c.read n = .data [] c' ∧ c'.rest = [] ∧ c'.eof = true) ∨
    (c.rest = [] ∧ c.eof = false ∧ c.read n = .stall) ∨
    (∃ d c', c.read n = .data d c' ∧ d ≠ [] ∧ d.length ≤ n ∧ c.rest = d ++ c'.rest ∧
      c'.rest.length < c.rest.length ∧ c'.eof = c.eof) := by
  unfold Conn.read
  by_cases hr : c.rest = []
  · rw [hr]
    cases he : c.eof
    · exact .inr (.inl ⟨rfl, rfl, rfl⟩)
    · exact .inl ⟨rfl, rfl, _, rfl, rfl, rfl⟩
  · have hb := readSize_bounds c.sched n c.rest.length hn (List.length_pos_iff.mpr hr)
    rw [if_neg (by simpa using hr)]
    exact .inr (.inr ⟨_, _, rfl, by simp [hr]; omega, by simp; omega, (List.take_append_drop _ _).symm,
      by simp; omega, rfl⟩)

theorem readline_cases (c : Conn) :
    (readlineFlat c.rest c.eof = .tooLong ∧ c.readline = .tooLong) ∨
    (readlineFlat c.rest c.eof = .stall ∧ c.readline = .stall) ∨
    ∃ l c', readlineFlat c.rest c.eof = .line l c'.rest ∧ c.readline = .line l c' ∧ c'.eof = c.eof := by
  unfold Conn.readline
  cases readlineFlat c.rest c.eof with
  | line l r => exact .inr (.inr ⟨l, _, rfl, rfl, rfl⟩)
  | tooLong => exact .inl ⟨rfl, rfl⟩
  | stall => exact .inr (.inl ⟨rfl, rfl⟩)

theorem readline_eof {c c' : Conn} {l : Bytes} (h : c.readline = .line l c') : c'.eof = c.eof := by
  rcases readline_cases c with ⟨_, hr⟩ | ⟨_, hr⟩ | ⟨_, _, _, hr, he⟩
  · cases hr.symm.trans h
  · cases hr.symm.trans h
  · cases hr.symm.trans h; exact he

theorem readlineFlat_line {r : Bytes} {eof : Bool} {l r' : Bytes} (h : readlineFlat r eof = .line l r') :
    r = l ++ r' := by
  unfold readlineFlat at h
  split at h
  · split at h
    · cases h
    · cases h; exact (List.take_append_drop _ _).symm
  · split at h
    · cases h
    · split at h
      · cases h; simp
      · cases h

/-- The content decoder is *streaming*: the hypothesis under which the decoded body is independent of
the segmentation (`nil`: `specClose` / `specLength` feed the empty slice where the reader feeds nothing).
`idDecoder_hom` is its only instance.  C19 does not supply it: it is about whole runs over non-empty
pieces, and `nil` fails for the gzip wrapper (`Decomp.gzip_empty_first_piece_counterexample`). -/
structure Decoder.Hom {D : Type} (dc : Decoder D) : Prop where
  nil : ∀ s, dc.feed s [] = .ok (s, [])
  app : ∀ s x y, dc.feed s (x ++ y) =
    match dc.feed s x with
    | .ok (s', o₁) =>
      (match dc.feed s' y with
       | .ok (s'', o₂) => .ok (s'', o₁ ++ o₂)
       | .error e => .error e)
    | .error e => .error e

theorem idDecoder_hom : idDecoder.Hom := ⟨fun _ => rfl, fun _ _ _ => rfl⟩

variable {D : Type} {dc : Decoder D}

theorem Acc.data_nil (h : dc.Hom) (a : Acc D) : a.data dc [] = .ok a := by
  rcases a with ⟨nt, body, _ | st⟩ <;> simp [Acc.data, h.nil]

theorem Acc.data_append (h : dc.Hom) (a : Acc D) (x y : Bytes) :
    a.data dc (x ++ y) = match a.data dc x with
      | .ok a' => a'.data dc y
      | .error e => .error e := by
  rcases a with ⟨nt, body, _ | st⟩
  · simp [Acc.data]
  · simp only [Acc.data, h.app]
    rcases dc.feed st x with e | ⟨s', o₁⟩
    · rfl
    · simp only
      cases dc.feed s' y <;> simp

theorem Acc.data_notified {a a' : Acc D} {d : Bytes} (h : a.data dc d = .ok a') :
    a'.notified = a.notified ++ d := by
  unfold Acc.data at h
  split at h
  · cases h; rfl
  · split at h <;> cases h; rfl

theorem Acc.flush_notified {a a' : Acc D} (h : a.flush dc = .ok a') : a'.notified = a.notified := by
  unfold Acc.flush at h
  split at h
  · cases h; rfl
  · split at h <;> cases h; rfl

theorem feedThen_nil (h : dc.Hom) (a : Acc D) (k : Acc D → BodyS D) : feedThen dc a [] k = k a := by
  simp [feedThen, Acc.data_nil h]

theorem feedThen_append (h : dc.Hom) (a : Acc D) (x y : Bytes) (k : Acc D → BodyS D) :
    feedThen dc a (x ++ y) k = feedThen dc a x (fun a' => feedThen dc a' y k) := by
  simp only [feedThen, Acc.data_append h]
  cases a.data dc x <;> rfl

theorem feedThen_ok {a a' : Acc D} {d r' : Bytes} {k : Acc D → BodyS D} (h : feedThen dc a d k = .ok a' r') :
    ∃ a₁, a.data dc d = .ok a₁ ∧ k a₁ = .ok a' r' := by
  unfold feedThen at h
  split at h
  · exact ⟨_, ‹_›, h⟩
  · cases h

theorem specLength_ok {n : Nat} {r : Bytes} {eof : Bool} {a a' : Acc D} {r' : Bytes}
    (h : specLength dc n r eof a = .ok a' r') : n ≤ r.length ∧ a.data dc (r.take n) = .ok a' ∧ r' = r.drop n := by
  unfold specLength at h
  split at h <;> obtain ⟨a₁, hd, hk⟩ := feedThen_ok h
  · cases hk; exact ⟨‹_›, hd, rfl⟩
  · split at hk <;> cases hk

theorem specClose_ok {r : Bytes} {eof : Bool} {a a' : Acc D} {r' : Bytes}
    (h : specClose dc r eof a = .ok a' r') : eof = true ∧ a.data dc r = .ok a' ∧ r' = [] := by
  obtain ⟨a₁, hd, hk⟩ := feedThen_ok h
  split at hk <;> cases hk
  exact ⟨‹_›, hd, rfl⟩

theorem specLength_step (h : dc.Hom) {n : Nat} {d : Bytes} (hd : d.length ≤ n) (r : Bytes) (eof : Bool) (a : Acc D) :
    specLength dc n (d ++ r) eof a = feedThen dc a d (fun a' => specLength dc (n - d.length) r eof a') := by
  unfold specLength
  by_cases hle : n ≤ (d ++ r).length
  · have hle' : n - d.length ≤ r.length := by simp at hle; omega
    simp only [hle, hle', if_true, List.take_append, List.take_of_length_le hd, feedThen_append h,
      List.drop_append, List.drop_of_length_le hd, List.nil_append]
  · have hle' : ¬ n - d.length ≤ r.length := by simp at hle; omega
    simp only [hle, hle', if_false, feedThen_append h]

theorem specChunked_nil_eof (fuel0 fuel : Nat) (a : Acc D) :
    specChunked dc fuel0 (fuel + 1) [] true a = .exc .NetworkError := by
  simp [specChunked, readlineFlat, findLF]

theorem flatRev_cons (l : Bytes) (ls : List Bytes) : flatRev (l :: ls) = flatRev ls ++ l := by
  simp [flatRev]

theorem specHead_accounts {fuel : Nat} {r : Bytes} {eof : Bool} {ls : List Bytes} {n : Nat} {b nt r' : Bytes}
    (h : specHead fuel r eof ls n = .ok b nt r') : nt ++ r' = flatRev ls ++ r := by
  fun_induction specHead fuel r eof ls n with
  | case6 _ _ _ _ _ _ _ hrl => cases h; simp [flatRev_cons, readlineFlat_line hrl]
  | case8 _ _ _ _ _ _ _ hrl _ _ _ ih => simp [ih h, flatRev_cons, readlineFlat_line hrl]
  | _ => cases h

theorem rfc_of_head {cfg : StreamCfg} {req : ReqInfo} {w : Wire} {block nt r : Bytes} {st : Status} {f : Fields}
    (hh : specHead (w.bytes.length + 2) w.bytes w.eof [] 0 = .ok block nt r) (hp : parseResponse block = .ok (st, f)) :
    rfc dc cfg req w = if isNoBody req st then specOf w (.ok st f []) nt r false
      else specBody dc cfg req (w.bytes.length + 2) st f r nt w := by
  simp only [rfc, hh, hp]

theorem head_of_rfc_ok {cfg : StreamCfg} {req : ReqInfo} {w : Wire}
    (h : ∃ st f b, (rfc dc cfg req w).outcome = .ok st f b) :
    ∃ block nt r st f, specHead (w.bytes.length + 2) w.bytes w.eof [] 0 = .ok block nt r ∧
      parseResponse block = .ok (st, f) := by
  obtain ⟨st, f, b, h⟩ := h
  unfold rfc at h
  dsimp only at h
  split at h
  · cases h
  · cases h
  · split at h
    · cases h
    · exact ⟨_, _, _, _, _, ‹_›, ‹_›⟩

theorem finishSpec_ok {w : Wire} {st : Status} {f : Fields} {sc : Bool} {b : BodyS D}
    (h : ∃ st' f' body, (finishSpec dc w st f sc b).outcome = .ok st' f' body) :
    ∃ a r' o, b = .ok a r' ∧ finishSpec dc w st f sc b = specOf w o a.notified r' sc := by
  obtain ⟨st', f', body, h⟩ := h
  unfold finishSpec at h ⊢
  split at h
  · cases h
  · cases h
  · split at h
    · cases h
    · rename_i a' hfl
      exact ⟨_, _, .ok st f a'.body, rfl, by rw [Acc.flush_notified hfl]⟩

theorem finishChunkedSpec_ok {w : Wire} {st : Status} {f : Fields} {sc : Bool} {b : ChunksS D}
    (h : ∃ st' f' body, (finishChunkedSpec w st f sc b).outcome = .ok st' f' body) :
    ∃ a t r' o, b = .ok a t r' ∧ finishChunkedSpec w st f sc b = specOf w o a.notified r' sc := by
  obtain ⟨st', f', body, h⟩ := h
  unfold finishChunkedSpec at h ⊢
  split at h
  · cases h
  · cases h
  · split at h
    · cases h
    · rename_i f' hpf
      exact ⟨_, _, _, .ok st f' _, rfl, rfl⟩

/-- A body loop's result against the specification's on its slice of the flat stream.  `overrun`: the peer
sent more than Content-Length and a read swallowed part of the surplus `r`; kept of this: less is left than `r`. -/
inductive Res.Sim : Res D → BodyS D → Prop
  | exact {a c r} : c.rest = r → Sim (.ok a c false) (.ok a r)
  | overrun {a c r} : c.rest.length < r.length → Sim (.ok a c true) (.ok a r)
  | exc {e a c} : Sim (.exc e a c) (.exc e)
  | stall {a c} : Sim (.stall a c) .stall

theorem feedThen_rel {R : Res D → BodyS D → Prop} (hexc : ∀ {e a c}, R (.exc e a c) (.exc e)) {a : Acc D} {d : Bytes}
    {c : Conn} {k : Acc D → Res D} {s : Acc D → BodyS D} (hk : ∀ a', R (k a') (s a')) :
    R (match a.data dc d with | .ok a' => k a' | .error e => .exc e (a.note d) c) (feedThen dc a d s) := by
  unfold feedThen
  cases a.data dc d with
  | ok a' => exact hk a'
  | error e => exact hexc

theorem closeLoop_spec (h : dc.Hom) (fuel : Nat) (c : Conn) (a : Acc D) (hf : c.rest.length < fuel) :
    Res.Sim (closeLoop dc fuel c a) (specClose dc c.rest c.eof a) := by
  induction fuel generalizing c a with
  | zero => omega
  | succ fuel ih =>
    unfold closeLoop specClose
    rcases read_cases c 4096 (by omega) with
      ⟨hr, he, c', hrd, hr', _⟩ | ⟨hr, he, hrd⟩ | ⟨d, c', hrd, hd, _, hr, hlt, he⟩
    · simpa [hrd, hr, he, feedThen_nil h] using .exact hr'
    · simpa [hrd, hr, he, feedThen_nil h] using .stall
    · simp only [hrd, hr, List.isEmpty_iff, hd, feedThen_append h]
      exact feedThen_rel .exc fun a' => he ▸ ih c' a' (by omega)

theorem lengthLoop_spec (h : dc.Hom) (fuel left : Nat) (c : Conn) (a : Acc D) (hf : c.rest.length < fuel) :
    Res.Sim (lengthLoop dc fuel left c a) (specLength dc left c.rest c.eof a) := by
  induction fuel generalizing left c a with
  | zero => omega
  | succ fuel ih =>
    unfold lengthLoop
    by_cases hl : left = 0
    · simpa [hl, specLength, feedThen_nil h] using .exact rfl
    · rcases read_cases c 4096 (by omega) with
        ⟨hr, he, c', hrd, _⟩ | ⟨hr, he, hrd⟩ | ⟨d, c', hrd, hd, _, hr, hlt, he⟩
      · simpa [hl, hrd, hr, he, specLength, feedThen_nil h] using .exc
      · simpa [hl, hrd, hr, he, specLength, feedThen_nil h] using .stall
      · simp only [hl, hrd, hr, List.isEmpty_iff, hd]
        by_cases hov : d.length > left
        · have hle : left ≤ (d ++ c'.rest).length := by simp; omega
          simp only [hov, specLength, hle, List.take_append_of_le_length (Nat.le_of_lt hov)]
          exact feedThen_rel .exc fun a' => .overrun (by simp; omega)
        · simp only [hov, specLength_step h (Nat.le_of_not_gt hov)]
          exact feedThen_rel .exc fun a' => he ▸ ih _ c' a' (by omega)

/-- `chunkDataLoop` against `specLength … false`: with `eof := false` a stream that ends inside the
slice shows as `.stall`, and the relation says what the reader does then — wait, or, the peer having
closed, return with `true` (the next `readline` fails). -/
inductive Res.CDSim (eof : Bool) : Res D → BodyS D → Prop
  | done {a c r} : c.rest = r → c.eof = eof → CDSim eof (.ok a c false) (.ok a r)
  | eofInside {a c} : c.rest = [] → c.eof = true → eof = true → CDSim eof (.ok a c true) .stall
  | exc {e a c} : CDSim eof (.exc e a c) (.exc e)
  | stall {a c} : eof = false → CDSim eof (.stall a c) .stall

theorem chunkDataLoop_spec (h : dc.Hom) (fuel left : Nat) (c : Conn) (a : Acc D) (hf : c.rest.length < fuel) :
    Res.CDSim c.eof (chunkDataLoop dc fuel left c a) (specLength dc left c.rest false a) := by
  induction fuel generalizing left c a with
  | zero => omega
  | succ fuel ih =>
    unfold chunkDataLoop
    by_cases hl : left = 0
    · simpa [hl, specLength, feedThen_nil h] using .done rfl rfl
    · rcases read_cases c (min left 4096) (by omega) with
        ⟨hr, he, c', hrd, hr', he'⟩ | ⟨hr, he, hrd⟩ | ⟨d, c', hrd, hd, hdl, hr, hlt, he⟩
      · simpa [hl, hrd, hr, specLength, feedThen_nil h] using .eofInside hr' he' he
      · simpa [hl, hrd, hr, specLength, feedThen_nil h] using .stall he
      · simp only [hl, hrd, hr, List.isEmpty_iff, hd, specLength_step h (show d.length ≤ left by omega)]
        exact feedThen_rel .exc fun a' => he ▸ ih _ c' a' (by omega)

/-! The line loops only call `readline`, which does not look at the schedule: equalities through `obs`.
Likewise `chunkedLoop`: its data reads ask for `min left 4096` bytes, so none goes beyond the chunk. -/

def Head.obs : Head → HeadS
  | .ok block nt c => .ok block nt c.rest
  | .exc e _ _ => .exc e
  | .stall _ _ => .stall

theorem readHead_spec (fuel : Nat) (c : Conn) (ls : List Bytes) (n : Nat) :
    (readHead fuel c ls n).obs = specHead fuel c.rest c.eof ls n := by
  induction fuel generalizing c ls n with
  | zero => rfl
  | succ fuel ih =>
    rw [readHead, specHead]
    rcases readline_cases c with ⟨hf, hr⟩ | ⟨hf, hr⟩ | ⟨l, c', hf, hr, he⟩ <;> rw [hf, hr]
    · rfl
    · rfl
    · simp only [apply_ite Head.obs, ih, he]
      rfl

theorem readHead_eof {fuel : Nat} {c : Conn} {ls : List Bytes} {n : Nat} {b nt : Bytes} {c' : Conn}
    (h : readHead fuel c ls n = .ok b nt c') : c'.eof = c.eof := by
  fun_induction readHead fuel c ls n with
  | case6 _ _ _ _ _ _ hrl => cases h; exact readline_eof hrl
  | case8 _ _ _ _ _ _ hrl _ _ _ ih => exact (ih h).trans (readline_eof hrl)
  | _ => cases h

def Trailer.obs : Trailer → TrailerS
  | .ok t c => .ok t c.rest
  | .exc e _ => .exc e
  | .stall _ => .stall

theorem trailerLoop_spec (fuel : Nat) (c : Conn) (acc : Bytes) :
    (trailerLoop fuel c acc).obs = specTrailer fuel c.rest c.eof acc := by
  induction fuel generalizing c acc with
  | zero => rfl
  | succ fuel ih =>
    rw [trailerLoop, specTrailer]
    rcases readline_cases c with ⟨hf, hr⟩ | ⟨hf, hr⟩ | ⟨l, c', hf, hr, he⟩ <;> rw [hf, hr]
    · rfl
    · rfl
    · simp only [apply_ite Trailer.obs, ih, he]
      rfl

def Chunks.obs : Chunks D → ChunksS D
  | .ok a t c => .ok a t c.rest
  | .exc e _ _ => .exc e
  | .stall _ _ => .stall

theorem chunkedLoop_spec (h : dc.Hom) (fuel0 fuel : Nat) (c : Conn) (a : Acc D)
    (hf : c.rest.length < fuel) (hf0 : c.rest.length < fuel0) :
    (chunkedLoop dc fuel0 fuel c a).obs = specChunked dc fuel0 fuel c.rest c.eof a := by
  induction fuel generalizing c a with
  | zero => omega
  | succ fuel ih =>
    rw [chunkedLoop, specChunked]
    rcases readline_cases c with ⟨hrl, hr⟩ | ⟨hrl, hr⟩ | ⟨l, c1, hrl, hr, he1⟩ <;> rw [hrl, hr]
    · rfl
    · rfl
    have hlen := congrArg List.length (readlineFlat_line hrl)
    rw [List.length_append] at hlen
    dsimp only
    by_cases hlast : (l.getLast? != some 10) = true
    · rw [if_pos hlast, if_pos hlast]; rfl
    rw [if_neg hlast, if_neg hlast, ← he1]
    have : 1 ≤ l.length := List.length_pos_iff.mpr (by rintro rfl; exact hlast rfl)
    cases chunkSize? l with
    | none => rfl
    | some size =>
      dsimp only
      by_cases hz : size = 0
      · rw [if_pos hz, if_pos hz]
        cases (a.note l).flush dc with
        | error e => rfl
        | ok a2 => rw [← trailerLoop_spec]; cases trailerLoop fuel0 c1 [] <;> rfl
      · rw [if_neg hz, if_neg hz]
        have hm := chunkDataLoop_spec h fuel0 size c1 (a.note l) (by omega)
        unfold specLength feedThen at hm
        generalize chunkDataLoop dc fuel0 size c1 (a.note l) = R at hm ⊢
        by_cases hle : size ≤ c1.rest.length
        · rw [if_pos hle] at hm ⊢
          cases hd : (a.note l).data dc (c1.rest.take size) with
          | error e => rw [hd] at hm; cases hm; rfl
          | ok a2 =>
            rw [hd] at hm
            cases hm with
            | @done _ c2 _ hr2 he2 =>
              have : c2.rest.length ≤ c1.rest.length := by simp [hr2]
              dsimp only
              rw [← hr2, ← he2]
              rcases readline_cases c2 with ⟨hnl, hr3⟩ | ⟨hnl, hr3⟩ | ⟨nl, c3, hnl, hr3, he3⟩ <;> rw [hnl, hr3]
              · rfl
              · rfl
              have hlen2 := congrArg List.length (readlineFlat_line hnl)
              rw [List.length_append] at hlen2
              have hlt : c3.rest.length < c.rest.length := by omega
              simp only [apply_ite Chunks.obs, he3,
                ih c3 _ (Nat.lt_of_lt_of_le hlt (Nat.le_of_lt_succ hf)) (Nat.lt_trans hlt hf0)]
              rfl
        · rw [if_neg hle] at hm ⊢
          cases hd : (a.note l).data dc c1.rest with
          | error e => rw [hd] at hm; cases hm; rfl
          | ok a2 =>
            rw [hd] at hm
            cases hm with
            | @eofInside _ c2 hr2 he2 he =>
              -- the peer closed inside the chunk: the next size line cannot be read
              obtain ⟨f', rfl⟩ := Nat.exists_eq_add_one.mpr (show 0 < fuel by omega)
              simp only [he, if_true, ih c2 _ (by simp [hr2]) (by simp [hr2]; omega), hr2, he2, specChunked_nil_eof]
            | stall he => simp only [he]; rfl

/-- The reader's result `r` against what the specification `s` says about the same bytes: same outcome
(status, fields, body — or the same error class, or both wait); on success the listeners saw exactly the
message's bytes, and either the reader consumed exactly the message and closes when the message says so,
or — the peer having sent more than Content-Length — it swallowed part of the surplus and closes. -/
structure Agrees (r : Result) (s : Spec) : Prop where
  outcome : r.outcome = s.outcome
  notified : (∃ st f b, s.outcome = .ok st f b) → r.notified = s.notified
  framing : (∃ st f b, s.outcome = .ok st f b) →
    (r.rest = s.rest ∧ r.consumed = s.length ∧ r.closed = s.close) ∨
    (r.closed = true ∧ s.length < r.consumed ∧ s.rest ≠ [])

theorem agrees_exc (w : Wire) (e : PyExc) (nt : Bytes) (c : Conn) :
    Agrees (mkResult w (.exc e) true nt c) (specOf w (.exc e) [] [] true) :=
  ⟨rfl, nofun, nofun⟩

theorem agrees_stall (w : Wire) (nt : Bytes) (c : Conn) :
    Agrees (mkResult w .stalled false nt c) (specOf w .stalled [] [] false) :=
  ⟨rfl, nofun, nofun⟩

theorem agrees_ok (w : Wire) (o : Outcome) (nt : Bytes) (c : Conn) (cl : Bool) :
    Agrees (mkResult w o cl nt c) (specOf w o nt c.rest cl) :=
  ⟨rfl, fun _ => rfl, fun _ => .inl ⟨rfl, rfl, rfl⟩⟩

theorem finishBody_agrees (dc : Decoder D) (w : Wire) (st : Status) (f : Fields) (sc : Bool) {r : Res D} {b : BodyS D}
    (hm : r.Sim b) (hw : ∀ a rest, b = .ok a rest → rest.length ≤ w.bytes.length) :
    Agrees (finishBody dc w st f sc r) (finishSpec dc w st f sc b) := by
  cases hm with
  | exc => exact agrees_exc ..
  | stall => exact agrees_stall ..
  | exact hr =>
    subst hr
    simp only [finishBody, finishSpec]
    cases Acc.flush dc _ with
    | error e => exact agrees_exc ..
    | ok a' => exact agrees_ok ..
  | @overrun a c rest hlt =>
    -- `consumed` and `length` are `|w| - |rest|` in ℕ: `hw` keeps the subtraction from truncating
    have := hw a rest rfl
    simp only [finishBody, finishSpec]
    cases a.flush dc with
    | error e => exact agrees_exc ..
    | ok a' =>
      refine ⟨rfl, fun _ => rfl, fun _ => .inr ⟨rfl, ?_, ?_⟩⟩
      · simp only [mkResult, specOf]; omega
      · rintro rfl; simp at hlt

theorem finishChunked_agrees (w : Wire) (st : Status) (f : Fields) (sc : Bool) (r : Chunks D) :
    Agrees (finishChunked w st f sc r) (finishChunkedSpec w st f sc r.obs) := by
  cases r with
  | exc e a c => exact agrees_exc ..
  | stall a c => exact agrees_stall ..
  | ok a t c =>
    simp only [finishChunked, finishChunkedSpec, Chunks.obs]
    cases parseFields false f t with
    | none => exact agrees_exc ..
    | some f' => exact agrees_ok ..

theorem readBody_agrees (h : dc.Hom) (cfg : StreamCfg) (req : ReqInfo) (fuel : Nat) (st : Status) (f : Fields)
    (c : Conn) (nt : Bytes) (w : Wire) (hf : c.rest.length < fuel) (he : c.eof = w.eof)
    (hw : c.rest.length ≤ w.bytes.length) :
    Agrees (readBody dc cfg req fuel st f c nt w) (specBody dc cfg req fuel st f c.rest nt w) := by
  have hclose := finishBody_agrees dc w st f (!cfg.keepAlive || shouldClose req.version (f.get? sConnection))
    (closeLoop_spec h fuel c { notified := nt, body := [], dec := (decKind f).map dc.init } hf)
    (fun _ _ hb => by obtain ⟨_, _, rfl⟩ := specClose_ok hb; simp)
  simp only [readBody, specBody, ← he]
  cases bodyStrategy cfg f with
  | chunked =>
    rw [← chunkedLoop_spec h fuel fuel c _ hf hf]
    exact finishChunked_agrees ..
  | close => exact hclose
  | length =>
    cases contentLength? ((f.get? sContentLength).getD []) with
    | none => exact hclose
    | some n =>
      exact finishBody_agrees _ _ _ _ _ (lengthLoop_spec h fuel n c _ hf)
        (fun _ _ hb => by obtain ⟨_, _, rfl⟩ := specLength_ok hb; rw [List.length_drop]; omega)

/-- **C08 `agrees_with_spec`.**  For every byte string the peer may send, every segmentation of it into
reads (schedule `σ`), every request and stream configuration, the reader's result is, in the sense of
`Agrees`, what the framing rules of `rfc` give for the flat byte string — chunked before Content-Length
before read-until-close, no body for HEAD/1xx/204/304 — the content coding removed by the streaming
decoder `dc`. -/
theorem agrees_with_spec (h : dc.Hom) (cfg : StreamCfg) (req : ReqInfo) (σ : List Nat) (w : Wire) :
    Agrees (decode dc cfg req σ w) (rfc dc cfg req w) := by
  have hh := readHead_spec (w.bytes.length + 2) { rest := w.bytes, eof := w.eof, sched := σ } [] 0
  simp only [decode, rfc, ← hh]
  cases hrd : readHead (w.bytes.length + 2) { rest := w.bytes, eof := w.eof, sched := σ } [] 0 with
  | exc e nt c => exact agrees_exc ..
  | stall nt c => exact agrees_stall ..
  | ok block nt c =>
    have hle : (nt ++ c.rest).length = w.bytes.length :=
      congrArg List.length (specHead_accounts (hh ▸ congrArg Head.obs hrd))
    rw [List.length_append] at hle
    simp only [Head.obs]
    cases parseResponse block with
    | error e => exact agrees_exc ..
    | ok p =>
      dsimp only
      split
      · exact agrees_ok ..
      · exact readBody_agrees h cfg req _ p.1 p.2 c nt w (by omega) (readHead_eof hrd) (by omega)

/-- **C08 `segmentation_independent`.**  Two segmentations of the same byte stream give the same outcome
(status, fields, decoded body / error class / waiting) and, on success, the same bytes reported to the
listeners; when nothing follows the message in the stream, also the same consumed count, unread rest and
keep/close decision (with early surplus `closed` can differ: `overrun_counterexample`). -/
theorem segmentation_independent (h : dc.Hom) (cfg : StreamCfg) (req : ReqInfo) (σ₁ σ₂ : List Nat) (w : Wire) :
    (decode dc cfg req σ₁ w).outcome = (decode dc cfg req σ₂ w).outcome ∧
    ((∃ st f b, (decode dc cfg req σ₁ w).outcome = .ok st f b) →
      (decode dc cfg req σ₁ w).notified = (decode dc cfg req σ₂ w).notified ∧
      ((rfc dc cfg req w).rest = [] →
        (decode dc cfg req σ₁ w).consumed = (decode dc cfg req σ₂ w).consumed ∧
        (decode dc cfg req σ₁ w).closed = (decode dc cfg req σ₂ w).closed ∧
        (decode dc cfg req σ₁ w).rest = (decode dc cfg req σ₂ w).rest)) := by
  have a₁ := agrees_with_spec h cfg req σ₁ w
  have a₂ := agrees_with_spec h cfg req σ₂ w
  refine ⟨a₁.outcome.trans a₂.outcome.symm, ?_⟩
  intro ⟨st, f, b, hok⟩
  have hs : ∃ st f b, (rfc dc cfg req w).outcome = .ok st f b := ⟨st, f, b, a₁.outcome ▸ hok⟩
  refine ⟨(a₁.notified hs).trans (a₂.notified hs).symm, ?_⟩
  intro hrest
  rcases a₁.framing hs with ⟨r1, c1, k1⟩ | ⟨_, _, hne⟩
  · rcases a₂.framing hs with ⟨r2, c2, k2⟩ | ⟨_, _, hne⟩
    · exact ⟨c1.trans c2.symm, k1.trans k2.symm, r1.trans r2.symm⟩
    · exact absurd hrest hne
  · exact absurd hrest hne

/-- **C08 `consumed_exact`.**  A response that completed and left the connection open has
consumed exactly the message: nothing of what follows was touched, so the next response
is parsed from its first byte. -/
theorem consumed_exact (h : dc.Hom) (cfg : StreamCfg) (req : ReqInfo) (σ : List Nat) (w : Wire)
    (st : Status) (f : Fields) (b : Bytes)
    (hok : (decode dc cfg req σ w).outcome = .ok st f b) (hopen : (decode dc cfg req σ w).closed = false) :
    (decode dc cfg req σ w).consumed = (rfc dc cfg req w).length ∧
    (decode dc cfg req σ w).rest = (rfc dc cfg req w).rest := by
  have a := agrees_with_spec h cfg req σ w
  rcases a.framing ⟨st, f, b, a.outcome ▸ hok⟩ with ⟨r, c, _⟩ | ⟨hc, _, _⟩
  · exact ⟨c, r⟩
  · rw [hc] at hopen; cases hopen

/-- **C08 `overrun_closes`.**  If a completed response consumed anything beyond the message
(the peer sent more than Content-Length and a read swallowed part of it), the surplus was
not handed to anybody and the connection is closed. -/
theorem overrun_closes (h : dc.Hom) (cfg : StreamCfg) (req : ReqInfo) (σ : List Nat) (w : Wire)
    (st : Status) (f : Fields) (b : Bytes)
    (hok : (decode dc cfg req σ w).outcome = .ok st f b)
    (hover : (decode dc cfg req σ w).consumed ≠ (rfc dc cfg req w).length) :
    (decode dc cfg req σ w).closed = true ∧ (rfc dc cfg req w).length < (decode dc cfg req σ w).consumed ∧
    (decode dc cfg req σ w).notified = (rfc dc cfg req w).notified := by
  have a := agrees_with_spec h cfg req σ w
  have hs : ∃ st f b, (rfc dc cfg req w).outcome = .ok st f b := ⟨st, f, b, a.outcome ▸ hok⟩
  rcases a.framing hs with ⟨_, c, _⟩ | ⟨hc, hl, _⟩
  · exact absurd c hover
  · exact ⟨hc, hl, a.notified hs⟩

theorem Link.reuse_leftover {l : Link} (h : l.reuse = true) : l.leftover = [] := by
  simp only [Link.reuse, Bool.and_eq_true, List.isEmpty_iff] at h
  exact h.1.2

/-- **C08 `surplus_discarded`.**  A link that still holds unread bytes is not reused (`Stream.reconnect`):
surplus that no read swallowed is discarded with the connection. -/
theorem surplus_discarded (l : Link) (hne : l.leftover ≠ []) : l.reuse = false :=
  Bool.eq_false_iff.mpr fun h => hne (Link.reuse_leftover h)

theorem Link.pre_nil (l : Link) : (if l.reuse then l.leftover else []) = [] := by
  split
  · exact Link.reuse_leftover ‹_›
  · rfl

/-- **C08 `lockstep_sequence`.**  On a connection used in lock-step (the peer sends its
bytes for exchange k only after request k), whatever each exchange left behind — surplus
bytes, a closed or half-closed connection — every response is decoded from the first byte
the peer sent for it: the results are those of decoding each exchange's bytes alone. -/
theorem lockstep_sequence (cfg : StreamCfg) : ∀ (xs : List (ReqInfo × List Nat × Wire)) (l : Link),
    (session dc cfg l xs).map (·.2) = xs.map (fun x => decode dc cfg x.1 x.2.1 x.2.2) := by
  intro xs
  induction xs with
  | nil => intro l; rfl
  | cons x t ih => intro l; simp only [session, Link.pre_nil, List.nil_append, List.map_cons, ih]

/-- **C08 `abandoned_connection_not_reused`.**  A session that does not complete — only the
header was read, an exception left the block, `abort()` was called — never hands its
connection back for reuse: the response body still in flight cannot become the beginning of
the next response. -/
theorem abandoned_connection_not_reused (idx : Nat) (lv : Leave) (r : Result) (w : Wire)
    (h : lv ≠ .downloaded) : (linkAfter idx lv r w).reuse = false := by
  cases lv with
  | downloaded => exact absurd rfl h
  | _ => rfl

/-- **C08 `lockstep_sequence_leaves`.**  `lockstep_sequence` for sessions left in any way: every
response (or, for a header-only session, every header block) is decoded from the first byte the
peer sent for that request. -/
theorem lockstep_sequence_leaves (cfg : StreamCfg) : ∀ (xs : List (ReqInfo × List Nat × Wire × Leave)) (l : Link),
    (sessionL dc cfg l xs).map (·.2) = xs.map (fun x =>
      match x.2.2.2 with
      | .downloaded => decode dc cfg x.1 x.2.1 x.2.2.1
      | _ => decodeHead x.2.1 x.2.2.1) := by
  intro xs
  induction xs with
  | nil => intro l; rfl
  | cons x t ih =>
    intro l
    simp only [sessionL, Link.pre_nil, List.map_cons, ih]
    rcases x with ⟨req, σ, w, _ | _ | _ | _⟩ <;> rfl

theorem downloadInto_at_end (f : FileSt) (body : Bytes) (hend : f.pos = f.data.length) :
    downloadInto f body = { data := f.data ++ body, pos := f.pos } := by
  simp [downloadInto, FileSt.write, hend]

/-- **C08 `download_leaves_payload_at_position`.**  The caller reads the document from the position the
download leaves the file at.  For a file positioned at its end — empty, or already holding earlier
documents, a saved header block or the part fetched before `--continue` — that position is what it was,
what is read from it is exactly this response's body, and what the file held before is untouched. -/
theorem download_leaves_payload_at_position (f : FileSt) (body : Bytes) (hend : f.pos = f.data.length) :
    (downloadInto f body).pos = f.pos ∧ (downloadInto f body).content = body ∧
    (downloadInto f body).data.take f.pos = f.data := by
  simp [downloadInto_at_end f body hend, FileSt.content, hend]

/-- **C08 `downloads_into_one_file`.**  Two downloads into one growing file (`-O`), moved to its end in
between: the second caller reads exactly the second body, and the file is the concatenation. -/
theorem downloads_into_one_file (f : FileSt) (b₁ b₂ : Bytes) (hend : f.pos = f.data.length) :
    (downloadInto { (downloadInto f b₁) with pos := (downloadInto f b₁).data.length } b₂).content = b₂ ∧
    (downloadInto { (downloadInto f b₁) with pos := (downloadInto f b₁).data.length } b₂).data = f.data ++ b₁ ++ b₂ := by
  rw [downloadInto_at_end f b₁ hend, downloadInto_at_end _ b₂ rfl]
  simp [FileSt.content]

example : (downloadInto { data := lit "PREFIX", pos := 6 } (lit "abc")).content = lit "abc" ∧
    (downloadInto { data := lit "PREFIX", pos := 6 } (lit "abc")).data = lit "PREFIXabc" := by
  repeat rw [lit_ofList]
  decide +kernel

/-- **C08 `keepalive_kept`.**  A conforming exchange (complete, nothing after it, no `Connection: close`,
peer keeps the connection open) does keep the connection: persistence is not given up.  (The link is the
one `session` goes on with, `linkAfter idx .downloaded (decode …) w`.) -/
theorem keepalive_kept (h : dc.Hom) (cfg : StreamCfg) (req : ReqInfo) (σ : List Nat) (w : Wire) (idx : Nat)
    (st : Status) (f : Fields) (b : Bytes)
    (hok : (rfc dc cfg req w).outcome = .ok st f b) (hrest : (rfc dc cfg req w).rest = [])
    (hkeep : (rfc dc cfg req w).close = false) (heof : w.eof = false) :
    (Link.mk idx (!(decode dc cfg req σ w).closed && (decode dc cfg req σ w).outcome != .stalled)
      (decode dc cfg req σ w).rest w.eof).reuse = true := by
  have a := agrees_with_spec h cfg req σ w
  rcases a.framing ⟨st, f, b, hok⟩ with ⟨r, _, c⟩ | ⟨_, _, hne⟩
  · simp [Link.reuse, r, hrest, c, hkeep, heof, a.outcome, hok]
  · exact absurd hrest hne

theorem noContentCode_iff (c : Nat) :
    noContentCode c = true ↔ (100 ≤ c ∧ c < 200) ∨ c = 204 ∨ c = 304 := by
  simp [noContentCode, or_assoc]

/-- **C08 `isNoBody_iff`.**  The responses without a body are exactly those with status 1xx, 204 or 304 and
those to HEAD requests (the definition of `isNoBody` spelt out; tied to `is_no_body` by the `py` stream). -/
theorem isNoBody_iff (req : ReqInfo) (st : Status) :
    isNoBody req st = true ↔
      ((100 ≤ st.code ∧ st.code < 200) ∨ st.code = 204 ∨ st.code = 304) ∨ req.method.map asciiUpper = lit "HEAD" := by
  simp [isNoBody, noContentCode_iff]

/-- **C08 `body_read_unless_forbidden`.**  "No body where the protocol forbids one" — and only there: when
the header block is complete, its status is none of 1xx / 204 / 304 and the request was not a HEAD, the
reader agrees, for every schedule, with the framed-body specification `specBody` (chunked, else
Content-Length, else until close). -/
theorem body_read_unless_forbidden (h : dc.Hom) (cfg : StreamCfg) (req : ReqInfo) (σ : List Nat) (w : Wire)
    (block nt r : Bytes) (st : Status) (f : Fields)
    (hhead : specHead (w.bytes.length + 2) w.bytes w.eof [] 0 = .ok block nt r)
    (hparse : parseResponse block = .ok (st, f))
    (hcode : ¬ ((100 ≤ st.code ∧ st.code < 200) ∨ st.code = 204 ∨ st.code = 304))
    (hmeth : req.method.map asciiUpper ≠ lit "HEAD") :
    Agrees (decode dc cfg req σ w) (specBody dc cfg req (w.bytes.length + 2) st f r nt w) := by
  have a := agrees_with_spec h cfg req σ w
  have hnb : ¬ isNoBody req st = true := fun hb => ((isNoBody_iff req st).mp hb).elim hcode hmeth
  rwa [rfc_of_head hhead hparse, if_neg hnb] at a

/-- **C08 `no_body_when_forbidden`.**  Where the protocol does forbid a body, nothing after the header
block is consumed. -/
theorem no_body_when_forbidden (h : dc.Hom) (cfg : StreamCfg) (req : ReqInfo) (σ : List Nat) (w : Wire)
    (block nt r : Bytes) (st : Status) (f : Fields)
    (hhead : specHead (w.bytes.length + 2) w.bytes w.eof [] 0 = .ok block nt r)
    (hparse : parseResponse block = .ok (st, f))
    (hnb : isNoBody req st = true) :
    (decode dc cfg req σ w).outcome = .ok st f [] ∧ (decode dc cfg req σ w).rest = r ∧
    (decode dc cfg req σ w).notified = nt := by
  have hh := readHead_spec (w.bytes.length + 2) { rest := w.bytes, eof := w.eof, sched := σ } [] 0
  rw [hhead] at hh
  cases hrd : readHead (w.bytes.length + 2) { rest := w.bytes, eof := w.eof, sched := σ } [] 0 with
  | exc e nt c => rw [hrd] at hh; cases hh
  | stall nt c => rw [hrd] at hh; cases hh
  | ok _ _ c => rw [hrd] at hh; cases hh; simp [decode, hrd, hparse, hnb, mkResult]

/-- a 205 is framed like any other response: the chunked empty body is consumed -/
example : (decode idDecoder {} {} [] { bytes := lit "HTTP/1.1 205 Reset\r\nTransfer-Encoding: chunked\r\n\r\n0\r\n\r\n", eof := false }).consumed = 55 ∧
    (rfc idDecoder {} {} { bytes := lit "HTTP/1.1 205 Reset\r\nTransfer-Encoding: chunked\r\n\r\n0\r\n\r\n", eof := false }).rest = [] := by
  repeat rw [lit_ofList]
  decide +kernel
example : noContentCode 205 = false ∧ noContentCode 204 = true ∧ noContentCode 199 = true ∧ noContentCode 200 = false := by decide

def exMsg : Wire := { bytes := lit "HTTP/1.1 200 OK\r\nContent-Length: 2\r\n\r\nabX", eof := false }

/-- **C08 `overrun_counterexample`.**  The overrun is noticed only when a read swallows surplus: `closed`
does depend on the schedule when the peer sends surplus early (DESIGN.md section 7 #20); what the
caller gets does not. -/
theorem overrun_counterexample :
    (decode idDecoder {} {} [] exMsg).closed = true ∧ (decode idDecoder {} {} [1] exMsg).closed = false ∧
    (decode idDecoder {} {} [] exMsg).outcome = (decode idDecoder {} {} [1] exMsg).outcome := by
  rw [exMsg]; repeat rw [lit_ofList]
  decide +kernel

example : (rfc idDecoder {} {} exMsg).length = 40 ∧ (rfc idDecoder {} {} exMsg).rest = lit "X" := by
  rw [exMsg]; repeat rw [lit_ofList]
  decide +kernel

def Outcome.body? : Outcome → Option Bytes
  | .ok _ _ b => some b
  | _ => none

example : (decode idDecoder {} {} [0, 0] exMsg).outcome.body? = some (lit "ab") ∧
    (decode idDecoder {} {} [0, 0] exMsg).consumed = 40 ∧ (decode idDecoder {} {} [0, 0] exMsg).closed = false := by
  rw [exMsg]; repeat rw [lit_ofList]
  decide +kernel

def exChunked : Wire :=
  { bytes := lit "HTTP/1.1 200 OK\r\nTransfer-Encoding: Chunked\r\n\r\n2;x\r\nab\r\n0\r\nT: 1\r\n\r\n", eof := false }

example : (decode idDecoder {} {} [0] exChunked).outcome.body? = some (lit "ab") ∧
    (rfc idDecoder {} {} exChunked).rest = [] ∧ (rfc idDecoder {} {} exChunked).close = false := by
  rw [exChunked]; repeat rw [lit_ofList]
  decide +kernel

/-- a 304 with Content-Length has no body (and does not wait for one) -/
example : (decode idDecoder {} {} [] { bytes := lit "HTTP/1.1 304 NM\r\nContent-Length: 5\r\n\r\n", eof := false }).outcome.body?
    = some [] := by
  repeat rw [lit_ofList]
  decide +kernel

end Wpull.HttpWire
