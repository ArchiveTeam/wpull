/-
C11 — the `--sitemaps` set-up (`ProcessingRule.add_extra_urls`).  The two derived texts
`scheme://hostname_with_port/robots.txt` and `…/sitemap.xml` are assembled from normal parts (`parse_assembled`,
Proofs/C10Norm.lean): no user info, the host text and port of the start URL, a plain path, no query.
-/
import Proofs.C10Norm
import Proofs.C11
namespace Wpull.Url

abbrev sRobots : Str := [114, 111, 98, 111, 116, 115, 46, 116, 120, 116]
abbrev sSitemap : Str := [115, 105, 116, 101, 109, 97, 112, 46, 120, 109, 108]

/-- a single path segment that normalises to itself -/
structure PlainTail (R : Str) : Prop where
  seg : CleanSegs [R]
  out : ∀ x ∈ 47 :: R, OutChar defaultSet x
  upper : upperPct (47 :: R) = 47 :: R

theorem plain_robots : PlainTail sRobots := ⟨by unfold CleanSegs; decide, by decide, by decide⟩
theorem plain_sitemap : PlainTail sSitemap := ⟨by unfold CleanSegs; decide, by decide, by decide⟩

theorem site_text_parses (c c' : Cfg) (hv : V6Params c c') (hs' : SegSafe c'.encode) (hq : PrintParams c)
    (s : Str) (i : URLInfo) (hparse : parse c s = .ok i) (hnet : (netScheme? i.scheme).isSome = true) :
    ∃ sch hwp, i.scheme = some sch ∧ i.hostnameWithPort = .ok hwp ∧
      ∀ R, PlainTail R → ∃ u, parsedUrlOf c' (sch ++ [58, 47, 47] ++ hwp ++ 47 :: R) = .ok u := by
  obtain ⟨P⟩ := netParts_of_parse hparse hnet
  have hH := hostpart_reparse c c' hv P.hostname_ok
  have hhwp := P.hostnameWithPort_eq (parseHostname_no_bracket hv.no_bracket P.hostname_ok)
  generalize (if startsWith P.arg [91] then [91] ++ P.hn ++ [93] else P.hn) = H at hH hhwp
  refine ⟨P.sch, _, P.scheme_eq, hhwp, fun R hR => ?_⟩
  obtain ⟨_, j, hj, hju, _⟩ := parse_assembled c' hs' P.dp_eq normalizeUsername_nil normalizePassword_nil
    (by simp [percentDecode]) (by simp [percentDecode]) hH P.hn_ne
    (host_printable c hq s i hparse hnet _ P.hostname_eq) P.port_ne P.port_lt
    (normalPath_of_clean c' hs' hR.seg hR.out hR.upper) (normalQuery_nil c' hs')
    (n := P.sch ++ [58, 47, 47] ++ (H ++ portText P.dp P.port) ++ 47 :: R) (by simp [uiText, joinWith])
  unfold parsedUrlOf parseOrLog
  rw [hj]
  exact ⟨_, hju⟩

/-- **C11, `--sitemaps` set-up.**  For every start URL the parser accepts with a network scheme, `add_extra_urls`
returns: `hostname_with_port` is readable and both derived texts parse, so no `None.url` is read.  Hypotheses: the
IPv6 parameter (`V6Params`), `PrintParams` for the first parse, an ASCII-transparent codec for the second (`SegSafe`;
the default utf-8: `utf8Enc_segSafe`). -/
theorem extraUrls_never_raises (c c' : Cfg) (hv : V6Params c c') (hs' : SegSafe c'.encode)
    (hq : PrintParams c) (s : Str) (i : URLInfo) (hparse : parse c s = .ok i)
    (hnet : (netScheme? i.scheme).isSome = true) : ∃ l, extraUrls c' i = .ok l := by
  obtain ⟨sch, hwp, hsch, hh, hu⟩ := site_text_parses c c' hv hs' hq s i hparse hnet
  obtain ⟨u1, hu1⟩ := hu sRobots plain_robots
  obtain ⟨u2, hu2⟩ := hu sSitemap plain_sitemap
  unfold extraUrls extraUrlTexts
  simp only [hh, hsch, Option.getD_some]
  rw [List.mapM_cons, List.mapM_cons, List.mapM_nil, hu1, hu2]
  exact ⟨_, rfl⟩

end Wpull.Url
