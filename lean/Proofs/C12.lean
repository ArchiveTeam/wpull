/-
C12 — the connection pool never shares, over-allocates, leaks or deadlocks.

Over the transition system `Wpull.Pool` (`wpull/network/pool.py` after the two `fix:` commits): for every number of
clients and hosts, per-host limit `M ≥ 1`, client program, interleaving, placement of `task.cancel()` and remote
closes, and resolution of `set.pop()`.  Every step keeps `Inv` (`inv_step`); the proof regroups the clauses of `InvG`
(`Parts`) and relaxes them in the middle of a step (`Mid`).  `Frame` says which `closed` flags a step may change.
-/
import Wpull.Pool
namespace Wpull.Pool

theorem upd_proj {α β} (g : α → β) {f : Nat → α} {k : Nat} {v : α} (h : g v = g (f k)) :
    (fun i => g (upd f k v i)) = fun i => g (f i) := by
  funext i; unfold upd; grind

theorem upd_eq_iff_of_ne {α} {f : Nat → α} {t : Nat} {x y : α} (h1 : f t ≠ y) (h2 : x ≠ y) (u : Nat) :
    upd f t x u = y ↔ f u = y := by
  unfold upd; grind

theorem upd2_ne {f : Nat → Nat → Bool} {k n k' n' : Nat} {v : Bool} (h : (k', n') ≠ (k, n)) :
    upd f k (upd (f k) n v) k' n' = f k' n' := by
  by_cases hk : k' = k <;> simp_all

/-- the condition under which `notify` wakes a waiter -/
def live (creq : Nat → Bool) (l : List (Nat × Bool)) : Prop := ∃ t, (t, false) ∈ l ∧ creq t = false

section waiters
variable {c : Nat → Bool} {t : Nat} {l : List (Nat × Bool)}

theorem live_cons {b : Bool} : live c ((t, b) :: l) ↔ (b = false ∧ c t = false) ∨ live c l := by
  unfold live
  grind

theorem mem_map_fst : t ∈ l.map Prod.fst ↔ ∃ b, (t, b) ∈ l := by simp

theorem live_upd {v : Bool} (h : v = true ∨ t ∉ l.map Prod.fst) : live (upd c t v) l → live c l := by
  unfold live upd
  grind

theorem notify_map_fst : (notify c l).map Prod.fst = l.map Prod.fst := by
  induction l with
  | nil => rfl
  | cons e l ih =>
    simp only [notify]
    split <;> simp [ih]

theorem notify_length : (notify c l).length = l.length := by
  simpa using congrArg List.length notify_map_fst

theorem live_of_notify (h : live c (notify c l)) : live c l := by
  induction l with
  | nil => exact h
  | cons e l ih =>
    obtain ⟨t, b⟩ := e
    simp only [notify] at h
    split at h
    · exact live_cons.mpr ((live_cons.mp h).imp_right ih)
    · next hb => exact live_cons.mpr (.inl (by simpa using hb))

theorem notify_countP (h : live c l) : (notify c l).countP (·.2) = l.countP (·.2) + 1 := by
  induction l with
  | nil => exact absurd h nofun
  | cons e l ih =>
    obtain ⟨t, b⟩ := e
    simp only [notify]
    split
    · next hb =>
      rw [List.countP_cons, List.countP_cons, ih ((live_cons.mp h).resolve_left fun e => by simp [e] at hb)]
      omega
    · next hb => simp only [Bool.or_eq_true, not_or] at hb; simp [hb.1]

theorem dropTask_eq_filter : dropTask t l = l.filter (·.1 != t) := by
  induction l with
  | nil => rfl
  | cons e l ih => simp only [dropTask]; split <;> simp [*]

theorem mem_dropTask {e : Nat × Bool} : e ∈ dropTask t l ↔ e ∈ l ∧ e.1 ≠ t := by
  simp [dropTask_eq_filter]

theorem map_fst_dropTask : (dropTask t l).map Prod.fst = (l.map Prod.fst).filter (· != t) := by
  rw [dropTask_eq_filter, List.filter_map]; rfl

theorem dropTask_count (hnd : (l.map Prod.fst).Nodup) (hm : t ∈ l.map Prod.fst) :
    (dropTask t l).length + 1 = l.length ∧ l.countP (·.2) ≤ (dropTask t l).countP (·.2) + 1 := by
  induction l with
  | nil => simp at hm
  | cons e l ih =>
    rw [List.map_cons, List.nodup_cons] at hnd
    simp only [dropTask, List.length_cons, List.countP_cons]
    split
    · have : dropTask t l = l := by rw [dropTask_eq_filter, List.filter_eq_self]; grind
      grind
    · grind

end waiters

/-- `o`, `a`, `j` relax the invariant in the middle of a step: the `orphan`, `acquiring` and `released` of `Mid`;
between steps all three are `none` (`Inv`). -/
structure InvG (o : Option (Nat × Nat)) (a : Option Nat) (j : Option (Nat × Nat)) (s : St) : Prop where
  mpos : 0 < s.M
  noerr : s.err = false
  count_le : ∀ k, (s.host k).ready.length + (s.host k).busy.length ≤ s.M
  busy_nodup : ∀ k, (s.host k).busy.Nodup
  ready_nodup : ∀ k, (s.host k).ready.Nodup
  disjoint : ∀ k n, n ∈ (s.host k).ready → n ∉ (s.host k).busy
  lt_next : ∀ k n, (n ∈ (s.host k).ready ∨ n ∈ (s.host k).busy) → n < (s.host k).next
  hold_busy : ∀ t k n, s.pc t = .holding k n → n ∈ (s.host k).busy
  rel_busy : ∀ r, s.relDone r = false → (s.relConn r).2 ∈ (s.host (s.relConn r).1).busy
  hold_inj : ∀ t t' k n, s.pc t = .holding k n → s.pc t' = .holding k n → t = t'
  rel_inj : ∀ r r', s.relDone r = false → s.relDone r' = false → s.relConn r = s.relConn r' → r = r'
  hold_rel : ∀ t k n r, s.pc t = .holding k n → s.relDone r = false → s.relConn r ≠ (k, n)
  busy_owned : ∀ k n, n ∈ (s.host k).busy →
    (∃ t, s.pc t = .holding k n) ∨ (∃ r, s.relDone r = false ∧ s.relConn r = (k, n)) ∨ o = some (k, n)
  orphan : ∀ k n, o = some (k, n) → n ∈ (s.host k).busy ∧ (∀ t, s.pc t ≠ .holding k n) ∧
    (∀ r, s.relDone r = false → s.relConn r ≠ (k, n))
  rel_ge : ∀ r, s.nrels ≤ r → s.relDone r = true
  cond_pc : ∀ k t b, (t, b) ∈ (s.host k).cond → s.pc t = .cwait k
  pc_cond : ∀ t k, s.pc t = .cwait k → ∃ b, (t, b) ∈ (s.host k).cond
  cond_nodup : ∀ k, ((s.host k).cond.map Prod.fst).Nodup
  waiters_eq : ∀ k, (s.host k).waiters = (s.host k).cond.length + (if a = some k then 1 else 0)
  notif : ∀ k, live s.creq (s.host k).cond →
    s.M - (s.host k).busy.length ≤ (s.host k).cond.countP (·.2) + (if a = some k then 1 else 0)
  kept : ∀ k, k ∈ s.present → (s.host k).ready ≠ [] ∨ (s.host k).busy ≠ [] ∨ 0 < (s.host k).waiters
  absent : ∀ k, k ∉ s.present → (s.host k).busy = [] ∧ (s.host k).cond = [] ∧ (s.host k).ready = []
  acq_present : ∀ k, a = some k → k ∈ s.present
  swept : ∀ k n, n ∈ (s.host k).ready → s.closed k n = true → s.dirty k n = true ∨ j = some (k, n)

abbrev Inv (s : St) : Prop := InvG none none none s

theorem inv_init (M mc nk : Nat) (progs : List (List Round)) (hM : 0 < M) : Inv (init M mc nk progs) := by
  constructor <;> simp [init, live, hM] <;> grind

/-! The clauses of `InvG` in six groups, each a predicate over the few state components it reads, not over the state: a
write elsewhere leaves its statement as it is, so an operation proves the groups whose components it writes and
`{ hi with … }` carries the others over. -/

structure Conns (M : Nat) (ready busy : List Nat) (next : Nat) : Prop where
  count_le : ready.length + busy.length ≤ M
  busy_nodup : busy.Nodup
  ready_nodup : ready.Nodup
  disjoint : ∀ n, n ∈ ready → n ∉ busy
  lt_next : ∀ n, (n ∈ ready ∨ n ∈ busy) → n < next

structure Owns (o : Option (Nat × Nat)) (pc : Nat → PC) (relDone : Nat → Bool) (relConn : Nat → Nat × Nat)
    (nrels : Nat) (busy : Nat → List Nat) : Prop where
  hold_busy : ∀ t k n, pc t = .holding k n → n ∈ busy k
  rel_busy : ∀ r, relDone r = false → (relConn r).2 ∈ busy (relConn r).1
  hold_inj : ∀ t t' k n, pc t = .holding k n → pc t' = .holding k n → t = t'
  rel_inj : ∀ r r', relDone r = false → relDone r' = false → relConn r = relConn r' → r = r'
  hold_rel : ∀ t k n r, pc t = .holding k n → relDone r = false → relConn r ≠ (k, n)
  busy_owned : ∀ k n, n ∈ busy k →
    (∃ t, pc t = .holding k n) ∨ (∃ r, relDone r = false ∧ relConn r = (k, n)) ∨ o = some (k, n)
  orphan : ∀ k n, o = some (k, n) → n ∈ busy k ∧ (∀ t, pc t ≠ .holding k n) ∧
    (∀ r, relDone r = false → relConn r ≠ (k, n))
  rel_ge : ∀ r, nrels ≤ r → relDone r = true

/-- `cond_pc`, `pc_cond` and `cond_nodup` of `InvG`, over the lists of tasks queued at the hosts -/
structure Queue (pc : Nat → PC) (tasks : Nat → List Nat) : Prop where
  mem_iff : ∀ k t, t ∈ tasks k ↔ pc t = .cwait k
  nodup : ∀ k, (tasks k).Nodup

/-- `x`: 1 at the host where the stepping client is `acquiring`, else 0 -/
structure Wake (x M : Nat) (creq : Nat → Bool) (cond : List (Nat × Bool)) (waiters nbusy : Nat) : Prop where
  waiters_eq : waiters = cond.length + x
  /-- while some waiter can still be woken, every free slot is matched by a waiter already woken, or by the stepping
  client, who has not looked yet -/
  notif : live creq cond → M - nbusy ≤ cond.countP (·.2) + x

structure Kept (a : Option Nat) (present : List Nat) (host : Nat → Host) : Prop where
  kept : ∀ k, k ∈ present → (host k).ready ≠ [] ∨ (host k).busy ≠ [] ∨ 0 < (host k).waiters
  absent : ∀ k, k ∉ present → (host k).busy = [] ∧ (host k).cond = [] ∧ (host k).ready = []
  acq_present : ∀ k, a = some k → k ∈ present

def Swept (j : Option (Nat × Nat)) (host : Nat → Host) (closed dirty : Nat → Nat → Bool) : Prop :=
  ∀ k n, n ∈ (host k).ready → closed k n = true → dirty k n = true ∨ j = some (k, n)

/-- Where a step stands; `{}` between steps. -/
structure Mid where
  /-- a busy connection whose owner (holding client / pending release task) has just been removed -/
  orphan : Option (Nat × Nat) := none
  /-- the host at which the stepping client is counted in `_host_pool_waiters` but not yet queued at the condition -/
  acquiring : Option Nat := none
  /-- the connection that `HostPool.release` has just put back, before the `clean` of the same `ConnectionPool.release` -/
  released : Option (Nat × Nat) := none

structure Parts (m : Mid) (s : St) : Prop where
  mpos : 0 < s.M
  noerr : s.err = false
  conns : ∀ k, Conns s.M (s.host k).ready (s.host k).busy (s.host k).next
  owns : Owns m.orphan s.pc s.relDone s.relConn s.nrels fun k => (s.host k).busy
  queue : Queue s.pc fun k => (s.host k).cond.map Prod.fst
  wake : ∀ k, Wake (if m.acquiring = some k then 1 else 0) s.M s.creq (s.host k).cond (s.host k).waiters
    (s.host k).busy.length
  present : Kept m.acquiring s.present s.host
  swept : Swept m.released s.host s.closed s.dirty

/-- The fields of `Owns` and `Kept` carry the names of the clauses they hold, and go over by name. -/
theorem invG_iff {m : Mid} {s : St} : InvG m.orphan m.acquiring m.released s ↔ Parts m s :=
  ⟨fun h => { h with
      conns := fun k => { count_le := h.count_le k, busy_nodup := h.busy_nodup k, ready_nodup := h.ready_nodup k,
                          disjoint := h.disjoint k, lt_next := h.lt_next k }
      owns := { h with }
      queue := { mem_iff := fun k t => mem_map_fst.trans ⟨fun ⟨b, hb⟩ => h.cond_pc k t b hb, h.pc_cond t k⟩
                 nodup := h.cond_nodup }
      wake := fun k => { waiters_eq := h.waiters_eq k, notif := h.notif k }
      present := { h with } },
   fun h => { h, h.owns, h.present with
      count_le := fun k => (h.conns k).count_le
      busy_nodup := fun k => (h.conns k).busy_nodup
      ready_nodup := fun k => (h.conns k).ready_nodup
      disjoint := fun k => (h.conns k).disjoint
      lt_next := fun k => (h.conns k).lt_next
      cond_pc := fun k t b hb => (h.queue.mem_iff k t).mp (mem_map_fst.mpr ⟨b, hb⟩)
      pc_cond := fun t k hp => mem_map_fst.mp ((h.queue.mem_iff k t).mpr hp)
      cond_nodup := h.queue.nodup
      waiters_eq := fun k => (h.wake k).waiters_eq
      notif := fun k => (h.wake k).notif }⟩

section conns
variable {M n next : Nat} {ready busy ready' : List Nat}

theorem Conns.take (h : Conns M ready busy next) (hn : n ∈ ready) : Conns M (ready.erase n) (n :: busy) next := by
  cases h
  constructor <;> grind

theorem Conns.fresh (h : Conns M ready busy next) (hr : ready = []) (hb : busy.length < M) :
    Conns M ready (next :: busy) (next + 1) := by
  cases h
  constructor <;> grind

theorem Conns.giveBack (h : Conns M ready busy next) (hn : n ∈ busy) :
    Conns M (if n ∈ ready then ready else n :: ready) (busy.erase n) next := by
  cases h
  constructor <;> grind

theorem Conns.sublist (h : Conns M ready busy next) (hs : ready'.Sublist ready) : Conns M ready' busy next :=
  { h with
    count_le := by have := hs.length_le; have := h.count_le; omega
    ready_nodup := hs.nodup h.ready_nodup
    disjoint := fun n hn => h.disjoint n (hs.subset hn)
    lt_next := fun n hn => h.lt_next n (hn.imp_left (hs.subset ·)) }

end conns

section groups
variable {M t k n : Nat} {pc : Nat → PC} {rdone : Nat → Bool} {rconn : Nat → Nat × Nat} {nr : Nat}
  {host : Nat → Host} {new : Host} {o : Option (Nat × Nat)} {a a' : Option Nat}
  {present : List Nat} {closed dirty : Nat → Nat → Bool} {j : Option (Nat × Nat)} {x : PC} {busy : Nat → List Nat}

theorem Conns.setHost (hc : ∀ k, Conns M (host k).ready (host k).busy (host k).next)
    (h : Conns M new.ready new.busy new.next) (i : Nat) :
    Conns M (upd host k new i).ready (upd host k new i).busy (upd host k new i).next := by
  unfold upd; split
  · exact h
  · exact hc i

/-- a program counter that `Owns` and `Queue` do not see -/
def neutral (x : PC) : Prop := (∀ k n, x ≠ .holding k n) ∧ ∀ k, x ≠ .cwait k

theorem Owns.setHost (ho : Owns o pc rdone rconn nr fun i => (host i).busy) (hb : new.busy = (host k).busy) :
    Owns o pc rdone rconn nr fun i => (upd host k new i).busy :=
  upd_proj Host.busy hb ▸ ho

theorem Owns.setPc (ho : Owns o pc rdone rconn nr busy) (hpc : ∀ k n, pc t ≠ .holding k n)
    (hx : ∀ k n, x ≠ .holding k n) : Owns o (upd pc t x) rdone rconn nr busy :=
  have e := fun u k n => upd_eq_iff_of_ne (hpc k n) (hx k n) u
  { ho with
    hold_busy := by simpa only [e] using ho.hold_busy
    hold_inj := by simpa only [e] using ho.hold_inj
    hold_rel := by simpa only [e] using ho.hold_rel
    busy_owned := by simpa only [e] using ho.busy_owned
    orphan := by simpa only [ne_eq, e] using ho.orphan }

theorem Owns.grant (ho : Owns none pc rdone rconn nr fun i => (host i).busy) (hpc : ∀ k n, pc t ≠ .holding k n)
    (hn : n ∉ (host k).busy) (hb : new.busy = n :: (host k).busy) :
    Owns none (upd pc t (.holding k n)) rdone rconn nr fun i => (upd host k new i).busy :=
  { ho with
    hold_busy := by have := ho.hold_busy; simp only [upd]; grind
    rel_busy := by have := ho.rel_busy; simp only [upd]; grind
    hold_inj := by have := ho.hold_inj; have := ho.hold_busy; simp only [upd]; grind
    hold_rel := by have := ho.hold_rel; have := ho.rel_busy; simp only [upd]; grind
    busy_owned := by have := ho.busy_owned; simp only [upd]; grind
    orphan := nofun }

theorem Owns.orphanHold (ho : Owns none pc rdone rconn nr busy) (hpc : pc t = .holding k n)
    (hx : ∀ k n, x ≠ .holding k n) : Owns (some (k, n)) (upd pc t x) rdone rconn nr busy :=
  { ho with
    hold_busy := by have := ho.hold_busy; simp only [upd]; grind
    hold_inj := by have := ho.hold_inj; simp only [upd]; grind
    hold_rel := by have := ho.hold_rel; simp only [upd]; grind
    busy_owned := by have := ho.busy_owned; simp only [upd]; grind
    orphan := by have := ho.hold_busy; have := ho.hold_inj; have := ho.hold_rel; simp only [upd]; grind }

theorem Owns.orphanRel {r : Nat} (ho : Owns none pc rdone rconn nr busy) (hr : rdone r = false) :
    Owns (some (rconn r)) pc (upd rdone r true) rconn nr busy :=
  { ho with
    rel_busy := by have := ho.rel_busy; simp only [upd]; grind
    rel_inj := by have := ho.rel_inj; simp only [upd]; grind
    hold_rel := by have := ho.hold_rel; simp only [upd]; grind
    busy_owned := by have := ho.busy_owned; simp only [upd]; grind
    orphan := by have := ho.rel_busy; have := ho.rel_inj; have := ho.hold_rel; simp only [upd]; grind
    rel_ge := by have := ho.rel_ge; simp only [upd]; grind }

theorem Owns.adopt (ho : Owns (some (k, n)) pc rdone rconn nr busy) :
    Owns none pc (upd rdone nr false) (upd rconn nr (k, n)) (nr + 1) busy :=
  have hfresh := ho.rel_ge _ (Nat.le_refl _)
  have ⟨_, _, _⟩ := ho.orphan k n rfl
  { ho with
    rel_busy := by have := ho.rel_busy; simp only [upd]; grind
    rel_inj := by have := ho.rel_inj; simp only [upd]; grind
    hold_rel := by have := ho.hold_rel; simp only [upd]; grind
    busy_owned := by have := ho.busy_owned; simp only [upd]; grind
    orphan := nofun
    rel_ge := by have := ho.rel_ge; simp only [upd]; grind }

theorem Owns.release (ho : Owns (some (k, n)) pc rdone rconn nr fun i => (host i).busy) (hnd : (host k).busy.Nodup)
    (hb : new.busy = (host k).busy.erase n) : Owns none pc rdone rconn nr fun i => (upd host k new i).busy :=
  have ⟨_, _, _⟩ := ho.orphan k n rfl
  { ho with
    hold_busy := by have := ho.hold_busy; simp only [upd]; grind
    rel_busy := by have := ho.rel_busy; simp only [upd]; grind
    busy_owned := by have := ho.busy_owned; simp only [upd]; grind
    orphan := nofun }

theorem Queue.setHost (hq : Queue pc fun i => (host i).cond.map Prod.fst)
    (hc : new.cond.map Prod.fst = (host k).cond.map Prod.fst) : Queue pc fun i => (upd host k new i).cond.map Prod.fst :=
  upd_proj (fun h : Host => h.cond.map Prod.fst) hc ▸ hq

theorem Queue.setPc {tasks : Nat → List Nat} (hq : Queue pc tasks) (hpc : ∀ k, pc t ≠ .cwait k)
    (hx : ∀ k, x ≠ .cwait k) : Queue (upd pc t x) tasks :=
  ⟨fun k u => (hq.1 k u).trans (upd_eq_iff_of_ne (hpc k) (hx k) u).symm, hq.2⟩

theorem Queue.enqueue (hq : Queue pc fun i => (host i).cond.map Prod.fst) (hpc : ∀ k, pc t ≠ .cwait k)
    (hc : new.cond = (host k).cond ++ [(t, false)]) :
    Queue (upd pc t (.cwait k)) fun i => (upd host k new i).cond.map Prod.fst := by
  obtain ⟨h1, h2⟩ := hq
  refine ⟨?_, ?_⟩ <;> simp only [upd] <;> grind

theorem Queue.dequeue (hq : Queue pc fun i => (host i).cond.map Prod.fst) (hpc : pc t = .cwait k) (hx : ∀ k, x ≠ .cwait k)
    (hc : new.cond.map Prod.fst = (dropTask t (host k).cond).map Prod.fst) :
    Queue (upd pc t x) fun i => (upd host k new i).cond.map Prod.fst := by
  obtain ⟨h1, h2⟩ := hq
  rw [map_fst_dropTask] at hc
  refine ⟨?_, ?_⟩ <;> simp only [upd] <;> grind

variable {c : Nat → Bool} {l : List (Nat × Bool)} {w w' nb nb' y y' : Nat}

theorem Wake.setHost
    (hw : ∀ i, i ≠ k → Wake (if a = some i then 1 else 0) M c (host i).cond (host i).waiters (host i).busy.length)
    (ha : a = none ∨ a = some k) (ha' : a' = none ∧ y' = 0 ∨ a' = some k ∧ y' = 1)
    (h : Wake y' M c new.cond new.waiters new.busy.length) (i : Nat) :
    Wake (if a' = some i then 1 else 0) M c (upd host k new i).cond (upd host k new i).waiters
      (upd host k new i).busy.length := by
  simp only [upd]
  grind

/-- the stepping client's unit moves between `x`, `waiters` and `busy` (it registers, or takes a connection); the
subtraction is exact, `y ≤ w` by `waiters_eq` -/
theorem Wake.shift (h : Wake y M c l w nb) (hw : w' = w + y' - y) (hb : nb + y ≤ nb' + y') : Wake y' M c l w' nb' :=
  ⟨by have := h.1; omega, fun hl => by have := h.2 hl; omega⟩

theorem Wake.setCreq {v : Bool} (h : Wake y M c l w nb) (hv : v = true ∨ t ∉ l.map Prod.fst) :
    Wake y M (upd c t v) l w nb :=
  ⟨h.1, fun hl => h.2 (live_upd hv hl)⟩

theorem Wake.cond_nil (h : Wake y M c l w nb) (hw : w = 0) : l = [] :=
  List.eq_nil_of_length_eq_zero (by have := h.1; omega)

theorem Wake.append (h : Wake 1 M c l w nb) (hfull : ¬ nb < M) : Wake 0 M c (l ++ [(t, false)]) w nb :=
  ⟨by have := h.1; simp; omega, fun _ => by omega⟩

theorem Wake.drop (h : Wake 0 M c l w nb) (hnd : (l.map Prod.fst).Nodup) (hm : t ∈ l.map Prod.fst) :
    Wake 1 M c (dropTask t l) w nb := by
  have d := dropTask_count hnd hm
  refine ⟨by have := h.1; omega, fun ⟨u, hu, hc⟩ => ?_⟩
  have := h.2 ⟨u, (mem_dropTask.mp hu).1, hc⟩
  omega

/-- `shift` with a wake-up owed (the `+ 1`): a connection has just been given back, or the client gives up its place -/
theorem Wake.notify (h : Wake y M c l w nb) (hw : w' = w + y' - y) (hb : nb + y ≤ nb' + y' + 1) :
    Wake y' M c (notify c l) w' nb' := by
  refine ⟨by have := h.1; rw [notify_length]; omega, fun hl => ?_⟩
  have hl' := live_of_notify hl
  have := h.2 hl'
  have := notify_countP hl'
  omega

theorem hostEmptyIdle_iff {h : Host} : hostEmptyIdle h = true ↔ h.waiters = 0 ∧ h.ready = [] ∧ h.busy = [] := by
  simp [hostEmptyIdle, and_assoc]

theorem Kept.setHost {present' : List Nat} (hk : Kept a present host) (hp : ∀ i, i ≠ k → (i ∈ present' ↔ i ∈ present))
    (hk' : k ∈ present' ∧ (new.ready ≠ [] ∨ new.busy ≠ [] ∨ 0 < new.waiters) ∨
      k ∉ present' ∧ a' = none ∧ new.busy = [] ∧ new.cond = [] ∧ new.ready = [])
    (ha' : a' = none ∨ a' = some k) : Kept a' present' (upd host k new) := by
  obtain ⟨h1, h2, h3⟩ := hk
  refine ⟨?_, ?_, by grind⟩ <;> simp only [upd] <;> grind

theorem Kept.mem_present (hk : Kept a present host) (h : (host k).busy ≠ [] ∨ (host k).cond ≠ []) : k ∈ present := by
  have := hk.absent k
  grind

theorem Swept.setHost (hs : Swept j host closed dirty) (hr : ∀ m, m ∈ new.ready → m ∈ (host k).ready) :
    Swept j (upd host k new) closed dirty := by
  intro i m hm
  simp only [upd] at hm
  grind [Swept]

theorem Swept.putBack (hs : Swept none host closed dirty) (hr : ∀ m, m ∈ new.ready → m = n ∨ m ∈ (host k).ready) :
    Swept (some (k, n)) (upd host k new) closed dirty := by
  intro i m hm
  simp only [upd] at hm
  grind [Swept]

theorem Swept.setClosed {v : Bool} (hs : Swept j host closed dirty) (hn : n ∉ (host k).ready) :
    Swept j host (upd closed k (upd (closed k) n v)) dirty := by
  intro i m hm
  rw [upd2_ne fun e => by cases e; exact hn hm]
  exact hs i m hm

theorem Swept.setDirty (hs : Swept j host closed dirty) :
    Swept j host (upd closed k (upd (closed k) n true)) (upd dirty k (upd (dirty k) n true)) := by
  intro k' n' hm hcl
  by_cases h : (k', n') = (k, n)
  · cases h; simp
  · rw [upd2_ne h] at hcl ⊢
    exact hs k' n' hm hcl

end groups

section ops
variable {s s' : St} {t k n : Nat} {pops : List Nat} {g : Option Nat}

theorem hostAcquire_cases (h : hostAcquire s t k g = some s') :
    (∃ n, n ∈ (s.host k).ready ∧ s' = grantReady s t k n) ∨
    ((s.host k).ready = [] ∧ (s.host k).busy.length < s.M ∧ s' = grantFresh s t k) ∨
    (¬ (s.host k).busy.length < s.M ∧ s' = waitOn s t k) := by
  unfold hostAcquire at h
  grind

theorem hostAcquire_inv (hi : Parts { acquiring := some k } s) (hpc : s.pc t = .start)
    (h : hostAcquire s t k g = some s') : Parts {} s' := by
  have hst : neutral (s.pc t) := hpc ▸ ⟨nofun, nofun⟩
  have hwk := hi.wake k
  rw [if_pos rfl] at hwk
  have wake := fun {new : Host} =>
    Wake.setHost (new := new) (fun i _ => hi.wake i) (.inr rfl) (.inl ⟨rfl, rfl⟩)
  have present := fun {new : Host} (h : new.ready ≠ [] ∨ new.busy ≠ [] ∨ 0 < new.waiters) =>
    hi.present.setHost (fun _ _ => .rfl) (.inl ⟨hi.present.acq_present k rfl, h⟩) (.inl rfl)
  rcases hostAcquire_cases h with ⟨n, hn, rfl⟩ | ⟨hr, hb, rfl⟩ | ⟨hb, rfl⟩
  · exact { hi with
      conns := Conns.setHost hi.conns ((hi.conns k).take hn)
      owns := hi.owns.grant hst.1 ((hi.conns k).disjoint n hn) rfl
      queue := (hi.queue.setPc hst.2 (by simp)).setHost rfl
      wake := wake (hwk.shift rfl (by simp))
      present := present (.inr (.inl (List.cons_ne_nil _ _)))
      swept := hi.swept.setHost fun _ => List.mem_of_mem_erase }
  · exact { hi with
      conns := Conns.setHost hi.conns ((hi.conns k).fresh hr hb)
      owns := hi.owns.grant hst.1 (fun h => Nat.lt_irrefl _ ((hi.conns k).lt_next _ (.inr h))) rfl
      queue := (hi.queue.setPc hst.2 (by simp)).setHost rfl
      wake := wake (hwk.shift rfl (by simp))
      present := present (.inr (.inl (List.cons_ne_nil _ _)))
      swept := (hi.swept.setClosed (hr ▸ List.not_mem_nil)).setHost fun _ => id }
  · exact { hi with
      conns := Conns.setHost hi.conns (hi.conns k)
      owns := (hi.owns.setPc hst.1 (by simp)).setHost rfl
      queue := hi.queue.enqueue hst.2 rfl
      wake := wake (hwk.append hb)
      present := present (.inr (.inr (hwk.1 ▸ Nat.succ_pos _)))
      swept := hi.swept.setHost fun _ => id }

theorem acquire_inv (hi : Parts {} s) (hpc : s.pc t = .start) (h : acquire s t k g = some s') : Parts {} s' := by
  have reg : ∀ {present'}, (∀ i, i ≠ k → (i ∈ present' ↔ i ∈ s.present)) → k ∈ present' →
      Parts { acquiring := some k }
        { setHost s k { s.host k with waiters := (s.host k).waiters + 1 } with present := present' } := fun hp hk =>
    { hi with
      conns := Conns.setHost hi.conns (hi.conns k)
      owns := hi.owns.setHost rfl
      queue := hi.queue.setHost rfl
      wake := Wake.setHost (fun i _ => hi.wake i) (.inl rfl) (.inr ⟨rfl, rfl⟩) ((hi.wake k).shift rfl (by simp))
      present := hi.present.setHost hp (.inl ⟨hk, .inr (.inr (Nat.succ_pos _))⟩) (.inr rfl)
      swept := hi.swept.setHost fun _ => id }
  refine hostAcquire_inv ?_ (by split <;> exact hpc) h
  split
  · exact reg (fun _ _ => .rfl) ‹_›
  · next hp =>
    -- a host pool that is not kept is empty: the new one differs from it in `waiters` only
    obtain ⟨e1, e2, e3⟩ := hi.present.absent k hp
    have e4 : (s.host k).waiters = 0 := by simpa [e2] using (hi.wake k).1
    rw [show (⟨[], [], [], 1, (s.host k).next⟩ : Host) = { s.host k with waiters := (s.host k).waiters + 1 } by
      simp [e1, e2, e3, e4]]
    exact reg (fun i e => by simp [e]) (by simp)

theorem resume_inv (hi : Parts {} s) (hpc : s.pc t = .cwait k) :
    Parts { acquiring := some k }
      { setHost s k { s.host k with cond := dropTask t (s.host k).cond } with pc := upd s.pc t .start } :=
  have hm := (hi.queue.1 k t).mpr hpc
  have hp := hi.present.mem_present (.inr fun e => by simp [e] at hm)
  { hi with
    conns := Conns.setHost hi.conns (hi.conns k)
    owns := (hi.owns.setPc (by simp [hpc]) (by simp)).setHost rfl
    queue := hi.queue.dequeue hpc (by simp) rfl
    wake := Wake.setHost (fun i _ => hi.wake i) (.inl rfl) (.inr ⟨rfl, rfl⟩) ((hi.wake k).drop (hi.queue.2 k) hm)
    present := hi.present.setHost (fun _ _ => .rfl) (.inl ⟨hp, hi.present.kept k hp⟩) (.inr rfl)
    swept := hi.swept.setHost fun _ => id }

/-- client `t` lets go of `(k, n)`: the first half of `endRound`, and of `deliverCancel` at `.holding` -/
theorem orphanHold_inv (x : PC) (hi : Parts {} s) (hpc : s.pc t = .holding k n) (hx : neutral x) (v : Bool) :
    Parts { orphan := some (k, n) } { s with closed := upd s.closed k (upd (s.closed k) n v), pc := upd s.pc t x } :=
  { hi with
    owns := hi.owns.orphanHold hpc hx.1
    queue := hi.queue.setPc (by simp [hpc]) hx.2
    swept := hi.swept.setClosed fun h => (hi.conns k).disjoint n h (hi.owns.hold_busy t k n hpc) }

theorem spawnRel_inv (hi : Parts { orphan := some (k, n) } s) : Parts {} (spawnRel s k n) :=
  { hi with owns := hi.owns.adopt }

theorem hostRelease_inv (hi : Parts { orphan := some (k, n) } s) :
    Parts { released := some (k, n) } (hostRelease s k n) :=
  have hb := (hi.owns.orphan k n rfl).1
  have hnr : n ∉ (s.host k).ready := fun h => (hi.conns k).disjoint n h hb
  { hi with
    conns := Conns.setHost hi.conns ((hi.conns k).giveBack hb)
    owns := hi.owns.release (hi.conns k).busy_nodup rfl
    queue := hi.queue.setHost notify_map_fst
    wake := Wake.setHost (fun i _ => hi.wake i) (.inl rfl) (.inl ⟨rfl, rfl⟩)
      ((hi.wake k).notify rfl (by simp [List.length_erase_of_mem hb]; omega))
    present := hi.present.setHost (fun _ _ => .rfl)
      (.inl ⟨hi.present.mem_present (.inl (List.ne_nil_of_mem hb)), .inl (by simp [hnr])⟩) (.inl rfl)
    swept := hi.swept.putBack fun m hm => by simpa [hnr] using hm }

theorem cleanAll_ready_open {force : Bool} (habs : ∀ k, k ∉ s.present → (s.host k).ready = [])
    (h : n ∈ ((cleanAll s force).host k).ready) : (cleanAll s force).closed k n = false := by
  have := habs k
  simp only [cleanAll] at h ⊢
  grind

theorem cleanAll_inv {force : Bool} {j : Option (Nat × Nat)} (hi : Parts { released := j } s) :
    Parts {} (cleanAll s force) := by
  have hsub : ∀ k, ((cleanAll s force).host k).ready.Sublist (s.host k).ready := fun k => by
    simp only [cleanAll]
    split
    · split <;> simp
    · exact .refl _
  refine { hi with
    conns := fun k => (hi.conns k).sublist (hsub k)
    present := ?_
    swept := fun k n hm hcl => by
      rw [cleanAll_ready_open (fun k hk => (hi.present.absent k hk).2.2) hm] at hcl; cases hcl }
  -- a host pool dropped as idle has no waiter, hence no entry in the waiter list
  have hc := fun k => (hi.wake k).cond_nil
  obtain ⟨h1, h2, _⟩ := hi.present
  refine ⟨?_, ?_, nofun⟩ <;> simp only [cleanAll] <;> grind [hostEmptyIdle_iff]

theorem releaseOp_inv (hi : Parts { orphan := some (k, n) } s) : Parts {} (releaseOp s k n) := by
  unfold releaseOp
  have hb := (hi.owns.orphan k n rfl).1
  simp only [hi.present.mem_present (.inl (List.ne_nil_of_mem hb)), hb, and_self, if_true]
  exact cleanAll_inv (hostRelease_inv hi)

theorem cancelWait_inv (hi : Parts {} s) (hpc : s.pc t = .cwait k) :
    Parts {} (cancelWait { s with creq := upd s.creq t false } t k) := by
  have hm := (hi.queue.1 k t).mpr hpc
  -- `t` is queued at `k` only, and dropped there, so clearing its `creq` makes no waiter live
  have hwk := (((hi.wake k).drop (hi.queue.2 k) hm).setCreq (t := t) (v := false) <|
    .inr fun h => by simp [map_fst_dropTask] at h).notify (y' := 0) rfl (Nat.le_refl _)
  have hp := hi.present.mem_present (k := k) (.inr fun e => by simp [e] at hm)
  unfold cancelWait
  simp only [setHost]
  split <;> refine { hi with
    conns := Conns.setHost hi.conns (hi.conns k)
    owns := (hi.owns.setPc (by simp [hpc]) (by simp)).setHost rfl
    queue := hi.queue.dequeue hpc (by simp) notify_map_fst
    wake := Wake.setHost (fun i e => (hi.wake i).setCreq <| .inr fun h =>
      e (PC.cwait.inj (((hi.queue.1 i t).mp h).symm.trans hpc))) (.inl rfl) (.inl ⟨rfl, rfl⟩) hwk
    present := hi.present.setHost (fun i e => by simp [e]) ?_ (.inl rfl)
    swept := hi.swept.setHost fun _ => id }
  · next hidle =>
    have ⟨hw, hr, hb⟩ := hostEmptyIdle_iff.mp hidle
    exact .inr ⟨by simp, rfl, hb, hwk.cond_nil hw, hr⟩
  · next hidle =>
    rw [hostEmptyIdle_iff] at hidle
    exact .inl ⟨hp, by grind⟩

theorem neutral_inv (x : PC) (hi : Parts {} s) (hpc : neutral (s.pc t)) (hx : neutral x) :
    Parts {} { s with pc := upd s.pc t x } :=
  { hi with
    owns := hi.owns.setPc hpc.1 hx.1
    queue := hi.queue.setPc hpc.2 hx.2 }

theorem unread_inv {m : Mid} {pr : Nat → List Round} {p : List Nat} {e : List String} (hi : Parts m s) :
    Parts m { s with prog := pr, pending := p, evs := e } :=
  { hi with }

/-- `task.cancel()`, and the delivery of a cancellation to a task that does not wait -/
theorem creq_inv {m : Mid} (v : Bool) (hi : Parts m s) (h : v = true ∨ ∀ k, s.pc t ≠ .cwait k) :
    Parts m { s with creq := upd s.creq t v } :=
  { hi with wake := fun i => (hi.wake i).setCreq <| h.imp_right fun h hm => h i ((hi.queue.1 i t).mp hm) }

theorem drainGo_pending_only {s1 : St} {x : Option Nat} (h : drainGo s pops = some (s1, x)) :
    ∃ p, s1 = { s with pending := p } := by
  -- the arms that return a state: no pop left; a finished task skipped; an unfinished task waited for
  fun_induction drainGo s pops with
  | case1 => cases h; exact ⟨_, rfl⟩
  | case3 _ _ _ _ _ _ ih => exact ih h
  | case4 => exact ⟨_, (Prod.mk.inj (Option.some.inj h)).1.symm⟩
  | _ => cases h

theorem beginRound_cases (h : beginRound s t pops g = some s') :
    s' = { s with pc := upd s.pc t .done } ∨
    (∃ p r, s' = { s with pending := p, pc := upd s.pc t (.drain r) }) ∨
    ∃ p, ∃ rd : Round, acquire { s with pending := p } t rd.key g = some s' := by
  unfold beginRound at h
  split at h
  · grind
  · split at h
    · cases h
    · next hd => obtain ⟨p, rfl⟩ := drainGo_pending_only hd; grind
    · next hd => obtain ⟨p, rfl⟩ := drainGo_pending_only hd; exact .inr (.inr ⟨p, _, h⟩)

theorem stepClient_cases (h : stepClient s t pops g = some s') :
    s' = deliverCancel { s with creq := upd s.creq t false } t ∨
    (s.pc t = .start ∧ beginRound s t pops g = some s') ∨
    (∃ r, s.pc t = .drain r ∧ beginRound { s with pc := upd s.pc t .start } t pops g = some s') ∨
    (∃ k, s.pc t = .cwait k ∧ hostAcquire { setHost s k { s.host k with cond := dropTask t (s.host k).cond } with
        pc := upd s.pc t .start } t k g = some s') ∨
    ∃ k n rd rest, s.pc t = .holding k n ∧ beginRound (endRound s t k n rd rest) t pops g = some s' := by
  unfold stepClient at h
  grind

theorem step_rel {r : Nat} (h : step s (.rel r) = some s') : s.relDone r = false ∧
    s' = releaseOp { s with evs := [], relDone := upd s.relDone r true } (s.relConn r).1 (s.relConn r).2 := by
  simp only [step, relEnabled] at h
  grind

theorem beginRound_inv (hi : Parts {} s) (hpc : s.pc t = .start) (h : beginRound s t pops g = some s') :
    Parts {} s' := by
  have hn : neutral (s.pc t) := hpc ▸ ⟨nofun, nofun⟩
  rcases beginRound_cases h with rfl | ⟨p, r, rfl⟩ | ⟨p, rd, h⟩
  · exact neutral_inv .done hi hn ⟨nofun, nofun⟩
  · exact unread_inv (neutral_inv (.drain r) hi hn ⟨nofun, nofun⟩)
  · exact acquire_inv (unread_inv (p := p) hi) hpc h

theorem endRound_inv (rd : Round) (rest : List Round) (hi : Parts {} s) (hpc : s.pc t = .holding k n) :
    Parts {} (endRound s t k n rd rest) ∧ (endRound s t k n rd rest).pc t = .start := by
  unfold endRound
  have ho := orphanHold_inv .start hi hpc ⟨nofun, nofun⟩ rd.close
  dsimp only
  split
  · exact ⟨releaseOp_inv (unread_inv ho), by simp [releaseOp, cleanAll, hostRelease, setHost]; split <;> simp⟩
  · exact ⟨spawnRel_inv (unread_inv ho), by simp [spawnRel]⟩

theorem deliverCancel_inv (hi : Parts {} s) : Parts {} (deliverCancel { s with creq := upd s.creq t false } t) := by
  unfold deliverCancel
  split
  · next k hpc => exact cancelWait_inv hi hpc
  · next k n hpc =>
    exact spawnRel_inv (orphanHold_inv .cancelled (creq_inv false hi (.inr fun _ e => nomatch hpc.symm.trans e)) hpc ⟨nofun, nofun⟩ true)
  · next h1 h2 => exact neutral_inv .cancelled (creq_inv false hi (.inr h1)) ⟨h2, h1⟩ ⟨nofun, nofun⟩

theorem stepClient_inv (hi : Parts {} s) (h : stepClient s t pops g = some s') : Parts {} s' := by
  rcases stepClient_cases h with rfl | ⟨hpc, h⟩ | ⟨r, hpc, h⟩ | ⟨k, hpc, h⟩ | ⟨k, n, rd, rest, hpc, h⟩
  · exact deliverCancel_inv hi
  · exact beginRound_inv hi hpc h
  · exact beginRound_inv (neutral_inv .start hi (hpc ▸ ⟨nofun, nofun⟩) ⟨nofun, nofun⟩) (upd_same _ _ _) h
  · exact hostAcquire_inv (resume_inv hi hpc) (upd_same _ _ _) h
  · have := endRound_inv rd rest hi hpc
    exact beginRound_inv this.1 this.2 h

end ops

/-- every transition — a task step, `task.cancel()`, a remote close — preserves the invariant -/
theorem inv_step (s s' : St) (a : Act) (hi : Inv s) (h : step s a = some s') : Inv s' := by
  have hi0 : Parts {} { s with evs := [] } := unread_inv (invG_iff.mp hi)
  refine (invG_iff (m := {})).mpr ?_
  cases a with
  | client t pops g => exact stepClient_inv hi0 h
  | rel r => obtain ⟨hr, rfl⟩ := step_rel h; exact releaseOp_inv { hi0 with owns := hi0.owns.orphanRel hr }
  | cancel t =>
    simp only [step] at h
    split at h <;> cases h
    · exact hi0
    · exact hi0
    · exact creq_inv true hi0 (.inl rfl)
  | rclose k n => cases h; exact { hi0 with swept := hi0.swept.setDirty }

/-- `mc` is `max_count`; `nk`, the number of host keys, is read by the driver's rendering only -/
inductive Reach (M mc nk : Nat) (progs : List (List Round)) : St → Prop
  | init : Reach M mc nk progs (init M mc nk progs)
  | step {s s' : St} (a : Act) : Reach M mc nk progs s → step s a = some s' → Reach M mc nk progs s'

theorem reach_run {M mc nk : Nat} {progs : List (List Round)} (acts : List Act) :
    ∀ {s s' : St}, Reach M mc nk progs s → run s acts = some s' → Reach M mc nk progs s' := by
  induction acts with
  | nil => intro s s' hr h; cases h; exact hr
  | cons a rest ih =>
    intro s s' hr h
    simp only [run] at h
    split at h
    · exact ih (.step a hr ‹_›) h
    · cases h

def Frame (s s' : St) (X : Nat → Nat → Prop) : Prop :=
  s'.M = s.M ∧ ∀ k n, s'.closed k n ≠ s.closed k n → X k n

section frame
variable {s s1 s' : St} {t k n : Nat} {pops : List Nat} {g : Option Nat} {X Y : Nat → Nat → Prop}

theorem Frame.of_eq (hM : s'.M = s.M) (hc : s'.closed = s.closed) : Frame s s' X :=
  ⟨hM, fun _ _ h => absurd (hc ▸ rfl) h⟩

theorem Frame.setClosed {v : Bool} (hM : s'.M = s.M) (hc : s'.closed = upd s.closed k (upd (s.closed k) n v))
    (hX : X k n) : Frame s s' X :=
  ⟨hM, fun k' n' h => if e : (k', n') = (k, n) then by cases e; exact hX
    else absurd (hc ▸ upd2_ne e) h⟩

theorem Frame.trans (h1 : Frame s s1 X) (h2 : Frame s1 s' Y) : Frame s s' fun k n => X k n ∨ Y k n := by
  simp only [Frame] at *
  grind

theorem Frame.mono (h : Frame s s' X) (hXY : ∀ k n, X k n → Y k n) : Frame s s' Y :=
  ⟨h.1, fun k n hne => hXY k n (h.2 k n hne)⟩

theorem Frame.after (hM : s1.M = s.M) (hc : s1.closed = s.closed) (h : Frame s1 s' X) : Frame s s' X :=
  ⟨h.1.trans hM, fun k n hne => h.2 k n (hc ▸ hne)⟩

theorem hostAcquire_frame (h : hostAcquire s t k g = some s') :
    Frame s s' fun k' n' => (k', n') = (k, (s.host k).next) := by
  rcases hostAcquire_cases h with ⟨n, _, rfl⟩ | ⟨_, _, rfl⟩ | ⟨_, rfl⟩
  · exact .of_eq rfl rfl
  · exact .setClosed rfl rfl rfl
  · exact .of_eq rfl rfl

theorem beginRound_frame (h : beginRound s t pops g = some s') : Frame s s' fun k' n' => n' = (s.host k').next := by
  rcases beginRound_cases h with rfl | ⟨p, r, rfl⟩ | ⟨p, rd, h⟩
  · exact .of_eq rfl rfl
  · exact .of_eq rfl rfl
  · unfold acquire at h
    refine .after (by split <;> rfl) (by split <;> rfl) ((hostAcquire_frame h).mono fun k' n' e => ?_)
    cases e; split <;> simp [setHost]

theorem releaseOp_frame : Frame s (releaseOp s k n) fun k' n' => (k', n') = (k, n) ∨ n' ∈ (s.host k').ready := by
  refine ⟨by unfold releaseOp; split <;> rfl, fun k' n' hne => ?_⟩
  simp only [releaseOp, cleanAll, hostRelease, setHost, upd] at hne
  grind

theorem releaseOp_next (k' : Nat) : ((releaseOp s k n).host k').next = (s.host k').next := by
  simp only [releaseOp, cleanAll, hostRelease, setHost, upd]
  grind

/-- also: `next` is unchanged, since a step that follows (`Frame.trans`) names its fresh connection by the `next` of
the state in between -/
theorem endRound_frame (rd : Round) (rest : List Round) :
    Frame s (endRound s t k n rd rest) (fun k' n' => (k', n') = (k, n) ∨ n' ∈ (s.host k').ready) ∧
    ∀ k', ((endRound s t k n rd rest).host k').next = (s.host k').next := by
  unfold endRound
  dsimp only
  have h1 : Frame s
      { s with closed := upd s.closed k (upd (s.closed k) n rd.close), prog := upd s.prog t rest, pc := upd s.pc t .start }
      fun k' n' => (k', n') = (k, n) := .setClosed rfl rfl rfl
  split
  · exact ⟨(h1.trans releaseOp_frame).mono fun _ _ h => h.elim .inl id, fun k' => by rw [releaseOp_next]⟩
  · exact ⟨h1.mono fun _ _ => .inl, fun k' => rfl⟩

theorem stepClient_frame (h : stepClient s t pops g = some s') :
    Frame s s' fun k' n' => s.pc t = .holding k' n' ∨ n' ∈ (s.host k').ready ∨ n' = (s.host k').next := by
  rcases stepClient_cases h with rfl | ⟨_, h⟩ | ⟨r, _, h⟩ | ⟨k, _, h⟩ | ⟨k, n, rd, rest, hpc, h⟩
  · unfold deliverCancel
    split
    · refine .of_eq ?_ ?_ <;> simp only [cancelWait, setHost] <;> split <;> rfl
    · next k n hpc => exact .setClosed rfl rfl (.inl hpc)
    · exact .of_eq rfl rfl
  · exact (beginRound_frame h).mono fun _ _ e => .inr (.inr e)
  · exact .after rfl rfl ((beginRound_frame h).mono fun _ _ e => .inr (.inr e))
  · refine .after rfl rfl ((hostAcquire_frame h).mono fun _ _ e => ?_)
    cases e; exact .inr (.inr (by simp [setHost]))
  · have he := endRound_frame (s := s) (t := t) (k := k) (n := n) rd rest
    refine (he.1.trans (beginRound_frame h)).mono fun k' n' e => ?_
    have := he.2 k'
    grind

theorem step_M {a : Act} (h : step s a = some s') : s'.M = s.M := by
  cases a with
  | client t pops g => exact (stepClient_frame h).1
  | rel r => obtain ⟨_, rfl⟩ := step_rel h; exact releaseOp_frame.1
  | cancel t => simp only [step] at h; split at h <;> cases h <;> rfl
  | rclose k n => cases h; rfl

end frame

theorem reach_M {M mc nk : Nat} {progs : List (List Round)} {s : St} (h : Reach M mc nk progs s) : s.M = M := by
  induction h with
  | init => rfl
  | step a _ hs ih => rw [step_M hs, ih]

def closedDelta (s s' : St) (t : Nat) : Prop :=
  ∀ k' n', s'.closed k' n' ≠ s.closed k' n' →
    s.pc t = .holding k' n' ∨ n' ∈ (s.host k').ready ∨ n' = (s.host k').next

/-- session ownership: a step of client `t` changes the closed state only of the connection `t` holds when the step
begins (use, `abort()`, connect), of idle pooled connections (forced sweep of `t`'s direct check-in), or of a connection
not yet made when the step begins (named `next`: the object the factory makes for `t`).  In a reachable state a
connection held by another client is none of these (`exclusive`, `held_is_busy`, `InvG.lt_next`).  The model has no
action for `abort()` after `recycle()`. -/
theorem closes_only_own (s s' : St) (t : Nat) (pops : List Nat) (g : Option Nat)
    (h : step s (.client t pops g) = some s') : closedDelta s s' t :=
  (stepClient_frame h).2

/-- a release task (the pool's own deferred check-in) changes the closed state of nothing but the connection it checks
in and idle pooled connections (forced sweep above `max_count`) -/
theorem release_task_closes_only_idle (s s' : St) (r : Nat) (h : step s (.rel r) = some s') :
    ∀ k' n', s'.closed k' n' ≠ s.closed k' n' → (k', n') = s.relConn r ∨ n' ∈ (s.host k').ready := by
  obtain ⟨_, rfl⟩ := step_rel h
  exact releaseOp_frame.2

/-! Phrases in quotation marks are the property's own. -/

section property
variable {M mc nk : Nat} {progs : List (List Round)} {s : St}

theorem inv_reach (hM : 0 < M) (h : Reach M mc nk progs s) : Inv s := by
  induction h with
  | init => exact inv_init M mc nk progs hM
  | step a _ hs ih => exact inv_step _ _ a ih hs

/-- "a connection is held by at most one client at a time" -/
theorem exclusive (hM : 0 < M) (hr : Reach M mc nk progs s) {t t' k n : Nat}
    (h : s.pc t = .holding k n) (h' : s.pc t' = .holding k n) : t = t' :=
  (inv_reach hM hr).hold_inj t t' k n h h'

/-- "no more than the configured number of connections per host are ever checked out".  Even pooled + checked out
stays within the limit: the commented-out assert of `ConnectionPool.acquire` is always true. -/
theorem bounded (hM : 0 < M) (hr : Reach M mc nk progs s) (k : Nat) :
    (s.host k).busy.length ≤ M ∧ (s.host k).ready.length + (s.host k).busy.length ≤ M := by
  have := (inv_reach hM hr).count_le k
  rw [reach_M hr] at this
  exact ⟨by omega, this⟩

/-- a client's connection is checked out (in `busy`) and no deferred release is pending for it -/
theorem held_is_busy (hM : 0 < M) (hr : Reach M mc nk progs s) {t k n : Nat} (h : s.pc t = .holding k n) :
    n ∈ (s.host k).busy ∧ n ∉ (s.host k).ready ∧ ∀ r, s.relDone r = false → s.relConn r ≠ (k, n) := by
  have hi := inv_reach hM hr
  exact ⟨hi.hold_busy t k n h, fun hrdy => hi.disjoint k n hrdy (hi.hold_busy t k n h), fun r => hi.hold_rel t k n r h⟩

/-- "a waiting client obtains a connection as soon as one is free", state by state: whenever a (not cancelled) client
waits on host `k` while a slot of `k` is free, a woken waiter of `k` is ready to run. -/
theorem wakeup_pending (hM : 0 < M) (hr : Reach M mc nk progs s) {t k : Nat}
    (hw : (t, false) ∈ (s.host k).cond) (hc : s.creq t = false) (hfree : (s.host k).busy.length < M) :
    ∃ u, (u, true) ∈ (s.host k).cond ∧ clientEnabled s u = true := by
  have hi := inv_reach hM hr
  have := hi.notif k ⟨t, hw, hc⟩
  rw [reach_M hr] at this
  obtain ⟨⟨u, _⟩, he, rfl⟩ := List.countP_pos_iff.mp (show 0 < (s.host k).cond.countP (·.2) by simp at this; omega)
  exact ⟨u, he, by simp [clientEnabled, hi.cond_pc k u true he, he]⟩

/-- when the event loop has gone dry, a client that still waits for host `k` waits because all `M` connections of `k`
are checked out (and none is idle). -/
theorem no_lost_wakeup (hM : 0 < M) (hr : Reach M mc nk progs s) (hq : quiescent s) {t k : Nat}
    (h : s.pc t = .cwait k) : (s.host k).busy.length = M ∧ (s.host k).ready = [] := by
  obtain ⟨b, hb⟩ := (inv_reach hM hr).pc_cond t k h
  have hen := hq.1 t
  simp only [clientEnabled, h, Bool.or_eq_false_iff] at hen
  have hfull : ¬ (s.host k).busy.length < M := fun hfree => by
    cases b with
    | true => simp [hb] at hen
    | false =>
      obtain ⟨u, _, hu⟩ := wakeup_pending hM hr hb hen.2 hfree
      rw [hq.1 u] at hu; cases hu
  have := (bounded hM hr k).2
  exact ⟨by omega, List.eq_nil_of_length_eq_zero (by omega)⟩

theorem InvG.busy_nil (hi : Inv s) (hh : ∀ t k n, s.pc t ≠ .holding k n) (hrel : ∀ r, s.relDone r = true) (k : Nat) :
    (s.host k).busy = [] :=
  List.eq_nil_iff_forall_not_mem.mpr fun n hn => by
    rcases hi.busy_owned k n hn with ⟨u, hu⟩ | ⟨r, hr1, _⟩ | ho
    · exact hh u k n hu
    · rw [hrel r] at hr1; cases hr1
    · cases ho

/-- the loop never goes dry with work left: at quiescence every client has finished and every deferred release has
run. -/
theorem no_deadlock (hM : 0 < M) (hr : Reach M mc nk progs s) (hq : quiescent s) : allDone s := by
  have hi := inv_reach hM hr
  have hrel : ∀ r, s.relDone r = true := fun r => by
    by_cases h : r < s.nrels
    · simpa [relEnabled, h] using hq.2 r
    · exact hi.rel_ge r (by omega)
  have hbusy := hi.busy_nil (fun u k n hu => by have := hq.1 u; simp [clientEnabled, hu] at this) hrel
  refine ⟨fun t => ?_, hrel⟩
  have hen := hq.1 t
  unfold clientFinished
  cases hp : s.pc t with
  | done => exact .inl rfl
  | cancelled => exact .inr rfl
  | cwait k =>
    -- a waiter at quiescence means a full host, but nothing is checked out
    have := (no_lost_wakeup hM hr hq hp).1
    rw [hbusy k] at this
    exact absurd this (Nat.ne_of_lt hM)
  | _ => simp [clientEnabled, hp, hrel] at hen

/-- "once all clients have finished nothing remains checked out and per-host bookkeeping for idle hosts is dropped":
when also every deferred release has run, no connection is busy, every waiter count is 0, every host pool still kept
has a pooled connection, and no `KeyError` was raised on the way. -/
theorem clean_quiescence (hM : 0 < M) (hr : Reach M mc nk progs s) (hd : allDone s) :
    (∀ k, (s.host k).busy = []) ∧ (∀ k, (s.host k).waiters = 0) ∧ (∀ k, (s.host k).cond = []) ∧
    (∀ k, k ∈ s.present → (s.host k).ready ≠ []) ∧ s.err = false := by
  have hi := inv_reach hM hr
  have hfin : ∀ {u x}, s.pc u = x → x = .done ∨ x = .cancelled := fun h => h ▸ hd.1 _
  have hbusy := hi.busy_nil (fun u k n hu => by cases hfin hu <;> contradiction) hd.2
  have hcond : ∀ k, (s.host k).cond = [] := fun k => List.eq_nil_iff_forall_not_mem.mpr fun ⟨u, b⟩ hm => by
    cases hfin (hi.cond_pc k u b hm) <;> contradiction
  have hw : ∀ k, (s.host k).waiters = 0 := fun k => by simpa [hcond k] using hi.waiters_eq k
  exact ⟨hbusy, hw, hcond, fun k hk => (hi.kept k hk).elim id fun h =>
    h.elim (absurd (hbusy k)) fun h => absurd h (hw k ▸ Nat.lt_irrefl 0), hi.noerr⟩

/-- a dead connection that sits idle in a pool died (was closed by its peer) after the last `clean` sweep: every
check-in sweeps all hosts, whatever host it is for. -/
theorem dead_idle_is_recent (hM : 0 < M) (hr : Reach M mc nk progs s) {k n : Nat}
    (h : n ∈ (s.host k).ready) (hc : s.closed k n = true) : s.dirty k n = true :=
  ((inv_reach hM hr).swept k n h hc).resolve_right nofun

/-- right after any deferred release has run, no pool of any host holds a dead idle connection. -/
theorem release_sweeps (hM : 0 < M) (hr : Reach M mc nk progs s) {s' : St} {r : Nat}
    (hs : step s (.rel r) = some s') {k n : Nat} (h : n ∈ (s'.host k).ready) : s'.closed k n = false := by
  have hd : s'.dirty k n = false := by obtain ⟨_, rfl⟩ := step_rel hs; simp [releaseOp, cleanAll]
  exact Bool.eq_false_iff.mpr fun hc => Bool.false_ne_true (hd ▸ dead_idle_is_recent hM (.step _ hr hs) h hc)

/-- "per-host bookkeeping for idle hosts is dropped", idle = without live connection: once all clients have finished
and every deferred release has run, if no still-pooled connection was closed by its peer after the last check-in, every
host pool that is kept holds live idle connections only (at least one), and `count()` is their number. -/
theorem idle_hosts_dropped (hM : 0 < M) (hr : Reach M mc nk progs s) (hd : allDone s)
    (hclean : ∀ k n, n ∈ (s.host k).ready → s.dirty k n = false) :
    (∀ k, k ∈ s.present → (s.host k).ready ≠ [] ∧ ∀ n, n ∈ (s.host k).ready → s.closed k n = false) ∧
    count s = (s.present.map fun k => ((s.host k).ready.filter fun n => !s.closed k n).length).sum := by
  have hq := clean_quiescence hM hr hd
  have hlive : ∀ k n, n ∈ (s.host k).ready → s.closed k n = false := fun k n h =>
    Bool.eq_false_iff.mpr fun hc => Bool.false_ne_true (hclean k n h ▸ dead_idle_is_recent hM hr h hc)
  refine ⟨fun k hk => ⟨hq.2.2.2.1 k hk, hlive k⟩, ?_⟩
  unfold count
  congr 1
  apply List.map_congr_left
  intro k _
  rw [hq.1 k, List.filter_eq_self.mpr fun n hn => by simp [hlive k n hn]]
  rfl

/-- no `KeyError`: `busy.remove(connection)` and `_host_pools[key]` never miss. -/
theorem no_error (hM : 0 < M) (hr : Reach M mc nk progs s) : s.err = false := (inv_reach hM hr).noerr

end property

/-- three clients of one host (the runs below give it limit 1) -/
def demoProgs : List (List Round) := [[⟨0, false, false⟩], [⟨0, false, false⟩], [⟨0, false, false⟩]]

/-- client 0 holds connection (0,0); clients 1 and 2 wait on the condition -/
def demoWait : Option St := run (init 1 100 1 demoProgs) [.client 0 [] (some 0), .client 1 [] none, .client 2 [] none]

/-- ... client 0 leaves, its release task wakes client 1, client 1 is cancelled after it was woken:
the wake-up is passed on to client 2, which gets the connection; everything finishes. -/
def demoCancel : Option St := run (init 1 100 1 demoProgs)
  [.client 0 [] (some 0), .client 1 [] none, .client 2 [] none, .client 0 [] none, .rel 0,
   .cancel 1, .client 1 [] none, .client 2 [] (some 0), .client 2 [] none, .rel 1]

-- exclusive / bounded / held_is_busy: a state with a holder and a full host
example : (demoWait.map fun s => (s.pc 0, (s.host 0).busy, (s.host 0).cond)) =
    some (.holding 0 0, [0], [(1, false), (2, false)]) := by decide +kernel
-- wakeup_pending: after the release a slot is free, client 2 still waits unnotified, client 1 is woken
example : ((run (init 1 100 1 demoProgs) [.client 0 [] (some 0), .client 1 [] none, .client 2 [] none,
    .client 0 [] none, .rel 0]).map fun s => ((s.host 0).busy, (s.host 0).cond, clientEnabled s 1)) =
    some ([], [(1, true), (2, false)], true) := by decide +kernel
-- cancellation of the woken waiter passes the wake-up on
example : ((run (init 1 100 1 demoProgs) [.client 0 [] (some 0), .client 1 [] none, .client 2 [] none,
    .client 0 [] none, .rel 0, .cancel 1, .client 1 [] none]).map fun s => ((s.host 0).cond, (s.host 0).waiters, s.pc 1)) =
    some ([(2, true)], 1, .cancelled) := by decide +kernel
-- no_deadlock / clean_quiescence: the run ends with all clients finished, nothing busy, a live pooled connection kept
example : (demoCancel.map fun s => (s.pc 0, s.pc 1, s.pc 2, s.relDone 0, s.relDone 1)) =
    some (.done, .cancelled, .done, true, true) := by decide +kernel
example : (demoCancel.map fun s => ((s.host 0).busy, (s.host 0).ready, (s.host 0).waiters, s.present, s.err)) =
    some ([], [0], 0, [0], false) := by decide +kernel
-- an idle host is dropped: the only connection was closed, the last release cleans the host pool away
example : ((run (init 1 100 1 [[⟨0, true, false⟩]]) [.client 0 [] (some 0), .client 0 [] none, .rel 0]).map
    fun s => (s.present, (s.host 0).ready, s.pc 0)) = some ([], [], .done) := by decide +kernel
-- the waiting state is reachable (hypothesis of no_lost_wakeup), with the host full
example : ∃ s, Reach 1 100 1 demoProgs s ∧ s.pc 1 = .cwait 0 ∧ (s.host 0).busy.length = 1 := by
  have h : (demoWait.map fun s => (s.pc 1, (s.host 0).busy.length)) = some (.cwait 0, 1) := by decide +kernel
  obtain ⟨s, hs, e⟩ := Option.map_eq_some_iff.mp h
  exact ⟨s, reach_run _ .init hs, Prod.mk.inj e⟩

-- idle_hosts_dropped / release_sweeps: host 0's keep-alive connection is closed by the peer while idle in the
-- pool; the next check-in — of a live connection of host 1 — sweeps it and drops host 0
example : ((run (init 1 100 2 [[⟨0, false, false⟩], [⟨1, false, false⟩]])
    [.client 0 [] (some 0), .client 0 [] none, .rel 0, .rclose 0 0, .client 1 [0] (some 0), .client 1 [] none, .rel 1]).map
    fun s => (s.present, (s.host 0).ready, (s.host 1).ready, s.closed 1 0, count s)) =
    some ([1], [], [0], false, 1) := by decide +kernel
-- ... whereas a peer close after the last check-in leaves the dead connection (marked dirty) until the next one
example : ((run (init 1 100 2 [[⟨0, false, false⟩]])
    [.client 0 [] (some 0), .client 0 [] none, .rel 0, .rclose 0 0]).map
    fun s => (s.present, (s.host 0).ready, s.closed 0 0, s.dirty 0 0)) = some ([0], [0], true, true) := by decide +kernel

-- closes_only_own: the holder's own step changes the flag of the connection it holds (the first use connects it)
example : ((run (init 1 100 1 [[⟨0, false, false⟩], [⟨0, false, false⟩]]) [.client 0 [] (some 0)]).bind fun s =>
    (step s (.client 0 [] none)).map fun s' => (s.pc 0, s.closed 0 0, s'.closed 0 0, s'.pc 0)) =
    some (.holding 0 0, true, false, .done) := by decide +kernel

/-! ## the defect that was repaired (DESIGN.md section 7, row 10)

Before the `fix:` commits a `CancelledError` inside `Condition.wait` left `HostPool.acquire`
without releasing the re-acquired lock, without passing a consumed wake-up on and without undoing
`_host_pool_waiters`.  The lock-free part of that behaviour is `cancelWaitOld`; already it breaks
`wakeup_pending` / `no_lost_wakeup` and the waiter accounting (the held lock, which the model does
not represent, made it a hard deadlock on the real code: corpus `cancelled_cond_waiter.json`). -/

def cancelWaitOld (s : St) (t k : Nat) : St :=
  { setHost s k { s.host k with cond := dropTask t (s.host k).cond } with pc := upd s.pc t .cancelled }

def demoBeforeCancel : Option St := run (init 1 100 1 demoProgs)
  [.client 0 [] (some 0), .client 1 [] none, .client 2 [] none, .client 0 [] none, .rel 0, .cancel 1]

/-- client 1 (woken, then cancelled) leaves the old way: client 2 keeps waiting un-notified although
the slot is free and nothing else can run, and the waiter count stays 2 with one waiter left. -/
theorem cancel_counterexample_unrepaired :
    (demoBeforeCancel.map fun s =>
      let s' := cancelWaitOld s 1 0
      ((s'.host 0).cond, (s'.host 0).busy, (s'.host 0).waiters,
       (List.range 3).map (clientEnabled s'), (List.range 2).map (relEnabled s'))) =
    some ([(2, false)], [], 2, [false, false, false], [false, false]) := by decide +kernel

end Wpull.Pool
