/-
C18 — Work per URL is bounded: redirect chains and retries always end; model `Wpull.Request`.
The bounds on one session are projections of one invariant of the loop (`Good`, by the induction of
`Proofs/Lemmas/WebSession.lean`); the bounds on visits, restarts and the crawl count tries: every visit costs
one, and sends a request only if one was left.  The count is made once, over visits and crashes with robots.txt
in play (`attempts_over_restarts_le_tries`); the two `visits_…` theorems are read off it.
-/
import Proofs.Lemmas.WebSession
import Proofs.Lemmas.List
namespace Wpull.Request

/-- The motive for `run_induct`: the run does not run out of fuel; the follow-ups still to come fit into the
redirects left; between two authentication retries lies a follow-up; every request but the first is a follow-up
or a retry. -/
def Good (cfg : Cfg) (s : Sess) (sent : List Req) (fu ar : Nat) (t : Trace) : Prop :=
  t.out ≠ .fuel ∧
  t.followUps ≤ fu + redirectsLeft cfg s ∧
  t.authRetries + fu ≤ ar + t.followUps + armed s ∧
  t.sent.length + fu + ar ≤ sent.length + t.followUps + t.authRetries + 1

theorem session_good (cfg : Cfg) (adv : List Req → Reply) (r : Req) :
    Good cfg (initSess cfg r) [] 0 0 (session cfg adv r) := by
  refine run_induct cfg adv (C := Good cfg) (fun h => ⟨h, by simp, by simp, by simp⟩)
    (fun _ h => ⟨h, by simp, by simp, by simp; omega⟩) ?_ _ _ _ _ _ _ (budget_initSess cfg r)
  intro s q st hasLoc tgt s2 sent fu ar t _ hp hsome ⟨g1, g2, g3, g4⟩
  simp only [List.length_append, List.length_singleton] at g4
  rcases turn_cases hp hsome with ⟨hred, hf⟩ | ⟨hred, hf⟩
  all_goals
    simp only [setCur_armed, setCur_redirectsLeft] at hf
    simp only [hred, if_true, if_false, Bool.false_eq_true] at g2 g3 g4
    exact ⟨g1, by omega⟩

/-! `session cfg adv r` is one visit's fetch loop, the real `WebSession` driven by
`while not done(): start(); download()`, against any server strategy `adv`: a function of everything sent so
far (any status, any / no / unparsable `Location`, 401 for ever, failures). -/

/-- Redirect follow-ups per visit never exceed the configured maximum, whatever the server does. -/
theorem followups_le_max (cfg : Cfg) (adv : List Req → Reply) (r : Req) :
    (session cfg adv r).followUps ≤ cfg.maxRedirects := by
  simpa [initSess, redirectsLeft] using (session_good cfg adv r).2.1

/-- The exact authentication-retry bound of the code: the retry is re-armed by every redirect
hop, so a visit makes at most (follow-ups + 1) retries, not at most one (see
`literal_auth_bound_counterexample`). -/
theorem auth_retry_bound (cfg : Cfg) (adv : List Req → Reply) (r : Req) :
    (session cfg adv r).authRetries ≤ (session cfg adv r).followUps + 1 := by
  simpa [initSess, armed] using (session_good cfg adv r).2.2.1

/-- Requests per visit: one first request, plus one per follow-up, plus one per
authentication retry; hence at most 2·(max_redirects + 1). -/
theorem requests_per_visit_bound (cfg : Cfg) (adv : List Req → Reply) (r : Req) :
    (session cfg adv r).sent.length ≤ (session cfg adv r).followUps + (session cfg adv r).authRetries + 1 ∧
    (session cfg adv r).sent.length ≤ 2 * (cfg.maxRedirects + 1) := by
  have h1 := followups_le_max cfg adv r
  have h2 := auth_retry_bound cfg adv r
  have h3 := (session_good cfg adv r).2.2.2
  simp only [List.length_nil] at h3
  omega

/-- The loop always ends within the fuel the model gives it: every visit ends with
done / skipped / a (protocol or network) error. -/
theorem session_never_out_of_fuel (cfg : Cfg) (adv : List Req → Reply) (r : Req) :
    (session cfg adv r).out ≠ .fuel := (session_good cfg adv r).1

/-- the literal reading of the property's first sentence ("… plus one authentication retry") -/
def C18_literal : Prop :=
  ∀ (cfg : Cfg) (adv : List Req → Reply) (r : Req), (session cfg adv r).authRetries ≤ 1

def witnessUrl (p : String) : UrlC :=
  { scheme := lit "http", hostname := lit "a.example", port := 80, ipv6 := false, path := lit p, query := [],
    username := [], password := [], normUser := [], normPass := [] }

def witnessCfg : Cfg :=
  { maxRedirects := 2, proxy := false, factoryFields := [], useJar := false, auth := basicAuth, jar := fun _ _ => none }

def witnessScript : List Reply :=
  [.resp 401 false .invalid, .resp 307 true (.url (witnessUrl "/y")),
   .resp 401 false .invalid, .resp 307 true (.url (witnessUrl "/z")),
   .resp 401 false .invalid, .resp 307 true (.url (witnessUrl "/w")), .resp 401 false .invalid]

def witnessReq : Req :=
  { method := lit "GET", resourcePath := lit "/x", version := lit "HTTP/1.1", fields := [], url := witnessUrl "/x",
    username := lit "GU", password := lit "GP" }

theorem witness_counts :
    (session witnessCfg (scriptAdv witnessScript) witnessReq).authRetries = 3 ∧
    (session witnessCfg (scriptAdv witnessScript) witnessReq).followUps = 2 ∧
    (session witnessCfg (scriptAdv witnessScript) witnessReq).sent.length = 6 := by
  decide +kernel

/-- With max_redirects = 2 and a login configured, a server that alternates 401 and 307 obtains 3
authentication retries and 6 requests in one visit (replayed on the real code:
harness/corpus/C18/alternate_401_307.json). -/
theorem literal_auth_bound_counterexample : ¬ C18_literal := by
  intro h
  have := h witnessCfg (scriptAdv witnessScript) witnessReq
  rw [witness_counts.1] at this
  omega

/-- Whatever exception ends a visit — refused connection and DNS failure included, with or without
`--retry-connrefused` / `--retry-dns-error` — `handle_error` checks the item in with the try count
raised; in particular every error kind that leads to `Status.error` (the item is offered again) costs
a try. -/
theorem every_error_checkin_increments (cfg : Cfg) (e : PyExc) :
    (handleError cfg e).increment = true ∧
    ((handleError cfg e).status = .error → (handleError cfg e).increment = true) := by
  have h : (handleError cfg e).increment = true := by
    unfold handleError; split <;> (try split) <;> rfl
  exact ⟨h, fun _ => h⟩

theorem endOfVisit_increment (cfg : Cfg) (last : Nat) (out : Outcome) : (endOfVisit cfg last out).increment = true := by
  unfold endOfVisit
  split
  · split <;> (try split) <;> rfl
  · rfl
  · exact (every_error_checkin_increments cfg _).1
  · rfl

def afterVisitR (tries : Nat) (accept : Bool) (cfg : Cfg) (adv advR : List Req → Reply) (d : Bool)
    (r : Req) (rec : Rec) (pool : Option Bool) : Rec :=
  (visitR tries accept cfg adv advR d r rec pool).checkIns.foldl applyCheckIn rec

/-- With robots.txt in play — whatever the robots.txt fetch meets (5xx for ever, resets, redirects,
garbage, a disallowing file) — a visit still makes exactly one check-in and raises try_count by one. -/
theorem visitR_one_checkin (tries : Nat) (accept : Bool) (cfg : Cfg) (adv advR : List Req → Reply) (d : Bool)
    (r : Req) (rec : Rec) (pool : Option Bool) :
    (visitR tries accept cfg adv advR d r rec pool).checkIns.length = 1 ∧
    (afterVisitR tries accept cfg adv advR d r rec pool).tryCount = rec.tryCount + 1 := by
  unfold afterVisitR visitR
  split
  · simp [applyCheckIn]
  · split
    · simp [applyCheckIn]
    · simp [applyCheckIn, endOfVisit_increment]
    · simp only []
      split <;> simp [applyCheckIn, endOfVisit_increment, (every_error_checkin_increments cfg _).1]

theorem triesFilter_eq_true {tries : Nat} {rec : Rec} :
    triesFilter tries rec = true ↔ tries = 0 ∨ rec.tryCount < tries := by
  simp [triesFilter]

theorem visitR_refused {tries : Nat} {rec : Rec} (h : triesFilter tries rec = false) (accept : Bool) (cfg : Cfg)
    (adv advR : List Req → Reply) (d : Bool) (r : Req) (pool : Option Bool) :
    visitR tries accept cfg adv advR d r rec pool = ⟨[], [], [⟨.skipped, true⟩], pool⟩ := by
  simp [visitR, h]

/-- The robots.txt consult sits behind the filter verdict: a visit sends any request, for the
page or for robots.txt, only while tries are left; a URL that TriesFilter refuses is checked in as
skipped without a single request.  Each kind of request is bounded by 2·(max_redirects+1). -/
theorem visitR_requests (tries : Nat) (accept : Bool) (cfg : Cfg) (adv advR : List Req → Reply) (d : Bool)
    (r : Req) (rec : Rec) (pool : Option Bool) :
    let v := visitR tries accept cfg adv advR d r rec pool
    ((v.sent ≠ [] ∨ v.robotsSent ≠ []) → (tries = 0 ∨ rec.tryCount < tries)) ∧
    (triesFilter tries rec = false → v.sent = [] ∧ v.robotsSent = [] ∧
      (afterVisitR tries accept cfg adv advR d r rec pool).status = .skipped) ∧
    v.sent.length ≤ 2 * (cfg.maxRedirects + 1) ∧ v.robotsSent.length ≤ 2 * (cfg.maxRedirects + 1) := by
  have hp := (requests_per_visit_bound cfg adv r).2
  have hr := (requests_per_visit_bound { cfg with gate := fun _ => .pass } advR (robotsReq r.url)).2
  refine ⟨fun h => triesFilter_eq_true.mp ?_, fun hf => ?_, ?_⟩
  · cases hf : triesFilter tries rec
    · simp [visitR_refused hf] at h
    · rfl
  · simp [afterVisitR, visitR_refused hf, applyCheckIn]
  · -- whatever a visit sends is one session for the page and one for robots.txt
    unfold visitR
    split
    · simp
    · split
      · simp
      · exact ⟨hp, by simp⟩
      · simp only []; split <;> simp [hp, hr]

def afterVisit (tries : Nat) (accept : Bool) (cfg : Cfg) (adv : List Req → Reply) (r : Req) (rec : Rec) : Rec :=
  (visit tries accept cfg adv r rec).2.foldl applyCheckIn rec

theorem visitR_allowed (tries : Nat) (accept : Bool) (cfg : Cfg) (adv advR : List Req → Reply) (d : Bool)
    (r : Req) (rec : Rec) :
    visitR tries accept cfg adv advR d r rec (some true)
      = ⟨(visit tries accept cfg adv r rec).1, [], (visit tries accept cfg adv r rec).2, some true⟩ := by
  unfold visitR visit; split <;> rfl

/-- Every visit makes exactly one check-in, and it raises the try count by exactly one
(`ItemSession.set_status` / `skip`; the real `assert not self._try_count_incremented`). -/
theorem try_count_increments_once_per_visit (tries : Nat) (accept : Bool) (cfg : Cfg)
    (adv : List Req → Reply) (r : Req) (rec : Rec) :
    (visit tries accept cfg adv r rec).2.length = 1 ∧
    (afterVisit tries accept cfg adv r rec).tryCount = rec.tryCount + 1 := by
  have := visitR_one_checkin tries accept cfg adv adv false r rec (some true)
  rwa [afterVisitR, visitR_allowed] at this

/-- A visit issues requests only while tries are left, and never more than 2·(max_redirects+1). -/
theorem visit_requests (tries : Nat) (accept : Bool) (cfg : Cfg) (adv : List Req → Reply) (r : Req) (rec : Rec) :
    ((visit tries accept cfg adv r rec).1 ≠ [] → (tries = 0 ∨ rec.tryCount < tries)) ∧
    (visit tries accept cfg adv r rec).1.length ≤ 2 * (cfg.maxRedirects + 1) := by
  have := visitR_requests tries accept cfg adv adv false r rec (some true)
  rw [visitR_allowed] at this
  exact ⟨fun h => this.1 (Or.inl h), this.2.2.1⟩

/-- one visit's adversary: filter verdict, page server, robots.txt server, what a 200 robots body says -/
abbrev VisitAdv := Bool × (List Req → Reply) × (List Req → Reply) × Bool

/-- what happens to one URL over a sequence of runs -/
inductive RunEvent
  /-- a visit that runs to its check-in -/
  | visit (a : VisitAdv)
  /-- the item is checked out (`in_progress`), the process dies before the check-in, and the next run's
  `release()` puts it back (`todo`); the robots pool of the dead process is gone -/
  | killedAndRestarted

theorem release_tryCount (rec : Rec) : (release rec).tryCount = rec.tryCount := by
  unfold release; split <;> rfl

/-- per event: was it a completed visit that sent a request (page or robots.txt)? -/
def eventsFrom (tries : Nat) (cfg : Cfg) (r : Req) : List RunEvent → Rec → Option Bool → List Bool
  | [], _, _ => []
  | .killedAndRestarted :: rest, rec, _ =>
    false :: eventsFrom tries cfg r rest (release { rec with status := .inProgress }) none
  | .visit (acc, adv, advR, d) :: rest, rec, pool =>
    let v := visitR tries acc cfg adv advR d r rec pool
    (!(v.sent.isEmpty && v.robotsSent.isEmpty)) ::
      eventsFrom tries cfg r rest (afterVisitR tries acc cfg adv advR d r rec pool) v.pool

/-- Over any sequence of runs — visits against arbitrary servers, interleaved with any number of
crashes in mid-attempt and restarts on the same table — the completed attempts (visits that sent a
request) of a URL number at most `tries − try_count`: a restart never hands the tries budget back.
(Each crash adds at most its one interrupted, uncounted attempt.)  tries ≥ 1. -/
theorem attempts_over_restarts_le_tries (tries : Nat) (ht : 1 ≤ tries) (cfg : Cfg) (r : Req) :
    ∀ (evs : List RunEvent) (rec : Rec) (pool : Option Bool),
      ((eventsFrom tries cfg r evs rec pool).filter (· = true)).length ≤ tries - rec.tryCount := by
  intro evs
  induction evs with
  | nil => intro rec pool; simp [eventsFrom]
  | cons e rest ih =>
    intro rec pool
    cases e with
    | killedAndRestarted =>
      have := ih (release { rec with status := .inProgress }) none
      rw [release_tryCount] at this
      simpa [eventsFrom] using this
    | visit a =>
      obtain ⟨acc, adv, advR, d⟩ := a
      have hinc := (visitR_one_checkin tries acc cfg adv advR d r rec pool).2
      have hreq := (visitR_requests tries acc cfg adv advR d r rec pool).1
      have := ih (afterVisitR tries acc cfg adv advR d r rec pool) (visitR tries acc cfg adv advR d r rec pool).pool
      unfold eventsFrom
      simp only [List.filter_cons]
      split
      · rename_i hne
        have := hreq (by simpa using hne)
        simp only [List.length_cons]; omega
      · omega

/-- tries = 3, two failed attempts, a crash during the third, restart: exactly one more attempt -/
example :
    let adv := scriptAdv [.resp 500 false .invalid]
    let v : RunEvent := .visit (true, adv, adv, false)
    eventsFrom 3 witnessCfg witnessReq [v, v, .killedAndRestarted, v, v, v] ⟨.todo, 0⟩ (some true)
      = [true, true, false, true, false, false] := by decide +kernel

/-- per visit: did it send any request (page or robots.txt)? -/
def visitsFromR (tries : Nat) (cfg : Cfg) (r : Req) : List VisitAdv → Rec → Option Bool → List Bool
  | [], _, _ => []
  | (acc, adv, advR, d) :: rest, rec, pool =>
    let v := visitR tries acc cfg adv advR d r rec pool
    (!(v.sent.isEmpty && v.robotsSent.isEmpty)) ::
      visitsFromR tries cfg r rest (afterVisitR tries acc cfg adv advR d r rec pool) v.pool

theorem eventsFrom_visits (tries : Nat) (cfg : Cfg) (r : Req) : ∀ (vs : List VisitAdv) (rec : Rec) (pool : Option Bool),
    eventsFrom tries cfg r (vs.map .visit) rec pool = visitsFromR tries cfg r vs rec pool
  | [], _, _ => rfl
  | (acc, adv, advR, d) :: rest, rec, pool => by
    simp only [List.map_cons, eventsFrom, visitsFromR, eventsFrom_visits tries cfg r rest]

/-- `visits_with_request_le_tries` with robots.txt: over any sequence of visits against servers
that also control the robots.txt answers (perpetual 5xx / resets included), at most
`tries − try_count` visits send any request at all.  (tries ≥ 1.) -/
theorem visits_with_any_request_le_tries (tries : Nat) (ht : 1 ≤ tries) (cfg : Cfg) (r : Req) :
    ∀ (vs : List VisitAdv) (rec : Rec) (pool : Option Bool),
      ((visitsFromR tries cfg r vs rec pool).filter (· = true)).length ≤ tries - rec.tryCount := by
  intro vs rec pool
  rw [← eventsFrom_visits]
  exact attempts_over_restarts_le_tries tries ht cfg r _ rec pool

/-- the requests of successive visits of one URL, each visit against its own adversary and filter verdict -/
def visitsFrom (tries : Nat) (cfg : Cfg) (r : Req) : List (Bool × (List Req → Reply)) → Rec → List (List Req)
  | [], _ => []
  | (acc, adv) :: rest, rec =>
    (visit tries acc cfg adv r rec).1 :: visitsFrom tries cfg r rest (afterVisit tries acc cfg adv r rec)

theorem visitsFromR_allowed (tries : Nat) (cfg : Cfg) (r : Req) : ∀ (vs : List (Bool × (List Req → Reply))) (rec : Rec),
    visitsFromR tries cfg r (vs.map fun v => (v.1, v.2, v.2, false)) rec (some true)
      = (visitsFrom tries cfg r vs rec).map (fun l => !l.isEmpty)
  | [], _ => rfl
  | (acc, adv) :: rest, rec => by
    simp only [List.map_cons, visitsFromR, visitsFrom, afterVisitR, visitR_allowed, List.isEmpty_nil, Bool.and_true]
    rw [visitsFromR_allowed tries cfg r rest]; rfl

/-- A URL that keeps failing is attempted (visited with at least one request) at most `tries`
times — for every sequence of visits and server behaviours, even if it were offered again
regardless of its status.  (`tries = 0` is the documented "unlimited" and excluded.) -/
theorem visits_with_request_le_tries (tries : Nat) (ht : 1 ≤ tries) (cfg : Cfg) (r : Req) :
    ∀ (vs : List (Bool × (List Req → Reply))) (rec : Rec),
      ((visitsFrom tries cfg r vs rec).filter (· ≠ [])).length ≤ tries - rec.tryCount := by
  intro vs rec
  have := visits_with_any_request_le_tries tries ht cfg r (vs.map fun v => (v.1, v.2, v.2, false)) rec (some true)
  rw [visitsFromR_allowed, List.filter_map, List.length_map] at this
  have e : ((fun b => decide (b = true)) ∘ fun l : List Req => !l.isEmpty) = fun l => decide (l ≠ []) := by
    funext l; cases l <;> rfl
  rwa [e] at this

/-- one URL of the finite universe: not discovered yet, or its table record -/
abbrev Slot := Option Rec

/-- What a URL can still cost: an offered record its remaining tries, plus one for the visit that the tries
filter refuses and that only flips the status; an undiscovered URL more than the fresh `⟨.todo, 0⟩` it becomes. -/
def slotMeasure (tries : Nat) : Slot → Nat
  | none => tries + 2
  | some rec => if offered rec then (tries - rec.tryCount) + 1 else 0

def crawlMeasure (tries : Nat) (st : List Slot) : Nat := (st.map (slotMeasure tries)).sum

/-- A step of the crawl: a URL of the universe is discovered (added as `todo`), or an offered
URL (`todo` / `error`) is visited — against any page server, any robots.txt server, any pool
state and any filter verdict (`pool = some true` is a crawl without robots.txt checker). -/
inductive CrawlStep (tries : Nat) (cfg : Cfg) : List Slot → List Slot → Prop
  | discover (st : List Slot) (i : Nat) (h : st[i]? = some none) :
      CrawlStep tries cfg st (st.set i (some ⟨.todo, 0⟩))
  | visit (st : List Slot) (i : Nat) (rec : Rec) (h : st[i]? = some (some rec)) (ho : offered rec = true)
      (accept : Bool) (adv advR : List Req → Reply) (d : Bool) (r : Req) (pool : Option Bool) :
      CrawlStep tries cfg st (st.set i (some (afterVisitR tries accept cfg adv advR d r rec pool)))

/-- Every step of the crawl strictly decreases the sum of `slotMeasure` over the URL universe. -/
theorem crawl_step_decreases (tries : Nat) (ht : 1 ≤ tries) (cfg : Cfg) (st st' : List Slot)
    (h : CrawlStep tries cfg st st') : crawlMeasure tries st' < crawlMeasure tries st := by
  cases h with
  | discover i hi => exact List.sum_map_set_lt hi (by simp [slotMeasure, offered])
  | visit i rec hi ho accept adv advR d r pool =>
    refine List.sum_map_set_lt hi ?_
    have hinc := (visitR_one_checkin tries accept cfg adv advR d r rec pool).2
    have hno := (visitR_requests tries accept cfg adv advR d r rec pool).2.1
    simp only [slotMeasure, ho, if_true]
    split
    · -- still offered: then the tries filter did not refuse the visit, so a try was left
      rename_i ho'
      have : rec.tryCount < tries := by
        cases hf : triesFilter tries rec
        · simp [offered, (hno hf).2.2] at ho'
        · have := triesFilter_eq_true.mp hf; omega
      omega
    · omega

/-- A crawl of a finite URL set terminates: there is no infinite sequence of steps, whatever the
servers answer (for every tries ≥ 1, every redirect limit). -/
theorem crawl_terminates (tries : Nat) (ht : 1 ≤ tries) (cfg : Cfg) (run : Nat → List Slot) :
    ¬ (∀ k, CrawlStep tries cfg (run k) (run (k + 1))) := by
  intro h
  have key : ∀ k, crawlMeasure tries (run k) + k ≤ crawlMeasure tries (run 0) := by
    intro k
    induction k with
    | zero => simp
    | succ k ih => have := crawl_step_decreases tries ht cfg _ _ (h k); omega
  have := key (crawlMeasure tries (run 0) + 1)
  omega

/-- non-vacuity: a step exists -/
example : CrawlStep 2 witnessCfg [none] [some ⟨.todo, 0⟩] := CrawlStep.discover [none] 0 rfl

/-- a failing URL with tries = 2 is requested in exactly two visits -/
example :
    let adv := scriptAdv [.resp 500 false .invalid]
    (visitsFrom 2 witnessCfg witnessReq [(true, adv), (true, adv), (true, adv), (true, adv)] ⟨.todo, 0⟩).map List.length
      = [1, 1, 0, 0] := by decide +kernel

/-- with `max_redirects` = 2 the third redirect ends the visit -/
example : (session witnessCfg (scriptAdv [.resp 302 true (.url (witnessUrl "/y")), .resp 302 true (.url (witnessUrl "/z")),
    .resp 302 true (.url (witnessUrl "/w"))]) witnessReq).out = .error .ProtocolError := by decide +kernel

end Wpull.Request
