/-
C02 — No request is ever made for a URL outside the configured scope.
Theorems over the model `Wpull.Filter`, for every `Oracles` value (every behaviour of the `re` engine and of
`fnmatch`).  The session theorems are projections of one statement per session about every event it emits
(`webLoop_events`, `webProcess_events`, `ftpProcess_events`).
-/
import Wpull.Filter
import Proofs.Lemmas.Lit
import Proofs.Lemmas.Py
namespace Wpull.Filter

/-- `DemuxURLFilter.test_info`'s verdict is exactly the conjunction of the single filters' (truthiness) results. -/
theorem verdict_is_conjunction (o : Oracles) (fs : List Filter) (u : Info) (r : Rec) :
    (testInfo o fs u r).verdict = fs.all (fun f => f.test o u r) := by
  rw [Bool.eq_iff_iff]
  simp [testInfo]

theorem failed_exact (o : Oracles) (fs : List Filter) (u : Info) (r : Rec) :
    (∀ f, f ∈ (testInfo o fs u r).failed ↔ f ∈ fs ∧ f.test o u r = false) ∧
    (∀ f, f ∈ (testInfo o fs u r).passed ↔ f ∈ fs ∧ f.test o u r = true) :=
  ⟨fun _ => by simp [testInfo], fun _ => by simp [testInfo]⟩

theorem dictGet_some_mem {l : List (String × Bool)} {k : String} {v : Bool}
    (h : dictGet l k = some v) : (k, v) ∈ l := by
  simp only [dictGet, Option.map_eq_some_iff] at h
  obtain ⟨⟨a, b⟩, hf, rfl⟩ := h
  have hk : a = k := by simpa using List.find?_some hf
  exact hk ▸ List.mem_reverse.1 (List.mem_of_find?_eq_some hf)

theorem name_spanHosts {f : Filter} (h : f.name = "SpanHostsFilter") : f.isSpanHosts = true := by
  cases f <;> simp [Filter.name] at h <;> rfl

theorem onlySpanHosts_sound {o : Oracles} {fs : List Filter} {u : Info} {r : Rec}
    (h : isOnlySpanHostsFailed (testInfo o fs u r) = true) :
    ∃ f, (testInfo o fs u r).failed = [f] ∧ f.isSpanHosts = true := by
  simp only [isOnlySpanHostsFailed, Bool.and_eq_true, beq_iff_eq] at h
  obtain ⟨g, hg⟩ := List.length_eq_one_iff.1 h.1
  -- the dict entry was written by a filter of that name which failed, so that filter is `g`
  obtain ⟨f, hf, hpair⟩ := List.mem_map.1 (dictGet_some_mem h.2)
  injection hpair with hname hfalse
  have : f ∈ [g] := hg ▸ ((failed_exact ..).1 f).2 ⟨hf, hfalse⟩
  exact ⟨g, hg, List.mem_singleton.1 this ▸ name_spanHosts hname⟩

theorem consult_verdict (o : Oracles) (fs : List Filter) (u : Info) (r : Rec) (isRedirect : Bool) :
    (consult o fs u r isRedirect).verdict =
      ((testInfo o fs u r).verdict || (isRedirect && isOnlySpanHostsFailed (testInfo o fs u r))) := by
  simp only [consult]
  split
  · simp [*]
  · split <;> simp [*]

/-- Whenever `consult_filters` says "fetch", either every filter passed, or the caller said "this is a redirect" and
exactly one filter failed, a `SpanHostsFilter`. -/
theorem waiver_only_span_hosts (o : Oracles) (fs : List Filter) (u : Info) (r : Rec) (isRedirect : Bool)
    (h : (consult o fs u r isRedirect).verdict = true) :
    (testInfo o fs u r).verdict = true ∨
    (isRedirect = true ∧ ∃ f, (testInfo o fs u r).failed = [f] ∧ f.isSpanHosts = true) := by
  rw [consult_verdict, Bool.or_eq_true, Bool.and_eq_true] at h
  exact h.imp_right (.imp_right onlySpanHosts_sound)

/-- In the waiver case every rule other than the one span-hosts filter passed. -/
theorem waiver_others_pass (o : Oracles) (fs : List Filter) (u : Info) (r : Rec) (isRedirect : Bool)
    (h : (consult o fs u r isRedirect).verdict = true) :
    ∀ g ∈ fs, g.test o u r = false → (isRedirect = true ∧ g.isSpanHosts = true) := by
  intro g hg hfalse
  rcases waiver_only_span_hosts o fs u r isRedirect h with hv | ⟨hr, f, hf, hs⟩
  · rw [verdict_is_conjunction, List.all_eq_true] at hv
    rw [hv g hg] at hfalse
    cases hfalse
  · have hgf : g ∈ (testInfo o fs u r).failed := ((failed_exact ..).1 g).2 ⟨hg, hfalse⟩
    rw [hf] at hgf
    exact ⟨hr, List.mem_singleton.1 hgf ▸ hs⟩

/-- Without the redirect flag there is no waiver at all. -/
theorem no_waiver_without_redirect (o : Oracles) (fs : List Filter) (u : Info) (r : Rec) :
    (consult o fs u r false).verdict = (fs.all (fun f => f.test o u r)) := by
  rw [consult_verdict, verdict_is_conjunction, Bool.false_and, Bool.or_false]

theorem ite_append_self {α} (c : Prop) [Decidable c] (l m : List α) :
    (if c then l ++ m else l) = l ++ (if c then m else []) := by
  split <;> simp

theorem addIf_eq (c : Bool) (f : Filter) (l : List Filter) :
    addIf c f l = l ++ (if c then [f] else []) :=
  ite_append_self _ l [f]

/-- The filter list an option set must give: one line per option, written
independently of `buildFilters` (which mirrors the code statement by statement). -/
def reference (a : Options) : List Filter :=
  [if a.httpsOnly then .httpsOnly else .scheme [lit "http", lit "https", lit "ftp"]]
  ++ [.recursive a.recursive a.pageRequisites]
  ++ [.followFtp a.followFtp]
  ++ (if a.noParent then [.parent] else [])
  ++ (if a.domains ≠ [] ∨ a.excludeDomains ≠ [] then [.backwardDomain a.domains a.excludeDomains] else [])
  ++ (if a.hostnames ≠ [] ∨ a.excludeHostnames ≠ [] then [.hostname a.hostnames a.excludeHostnames] else [])
  ++ (if a.tries ≠ 0 then [.tries a.tries] else [])
  ++ (if (a.level ≠ 0 ∧ a.recursive = true) ∨ a.pageRequisitesLevel ≠ 0
        then [.level a.level a.pageRequisitesLevel] else [])
  ++ (if a.acceptRegex ≠ [] ∨ a.rejectRegex ≠ [] then [.regex a.acceptRegex a.rejectRegex] else [])
  ++ (if a.includeDirectories ≠ [] ∨ a.excludeDirectories ≠ []
        then [.directory a.includeDirectories a.excludeDirectories] else [])
  ++ (if a.accept ≠ [] ∨ a.reject ≠ [] then [.backwardFilename a.accept a.reject] else [])
  ++ [.spanHosts a.tableHostnames a.spanHosts a.spanAllowPageRequisites a.spanAllowLinkedPages]

/-- The code's construction yields exactly the reference list: nothing is dropped, nothing is added. -/
theorem build_sound (a : Options) : buildFilters a = reference a := by
  simp [buildFilters, reference, addIf_eq, defaultSchemes, sHttp, sHttps, sFtp]

/-- For the filter list built from an option set, the verdict is the conjunction
of the rules the options stand for (`reference`): no configured rule is skipped. -/
theorem built_verdict_is_conjunction_of_option_rules (o : Oracles) (a : Options) (u : Info) (r : Rec) :
    (testInfo o (buildFilters a) u r).verdict = (reference a).all (fun f => f.test o u r) := by
  rw [verdict_is_conjunction, build_sound]

/-- A guarded event: a robots.txt fetch only with a checker configured and only for the origin of a URL that
`consult_filters` accepted at that moment; a request only for a URL that `consult_filters` accepted at that
moment with the flag shown. -/
def Guarded (o : Oracles) (c : Cfg) (r : Rec) : Ev → Prop
  | .robotsTxt u => c.robots = true ∧ ∃ red, consultOk o c.fs u r red = true
  | .request u red => consultOk o c.fs u r red = true
  | .skip => True

theorem robotsGate_subset (u : Info) (rob : RobotsOutcome) (rest : List Ev) :
    robotsGate u rob rest ⊆ .robotsTxt u :: .skip :: rest := by
  rcases rob with (_|_) | (_|_) | _ <;> simp [robotsGate]

theorem mem_gated {b : Bool} {u : Info} {rob : RobotsOutcome} {go : List Ev} {ev : Ev}
    (h : ev ∈ if b then robotsGate u rob go else go) :
    (b = true ∧ ev = .robotsTxt u) ∨ ev = .skip ∨ ev ∈ go := by
  split at h
  · simpa [*] using robotsGate_subset u rob go h
  · exact .inr (.inr h)

/-- `Guarded`, and where the URL came from: a robots.txt fetch, and a request consulted with the waiver flag,
only for a URL in `F` (and the flag only with strong redirects). -/
def LoopEv (o : Oracles) (c : Cfg) (r : Rec) (F : Info → Prop) : Ev → Prop
  | .robotsTxt u => c.robots = true ∧ consultOk o c.fs u r c.strongRedirects = true ∧ F u
  | .request u red => consultOk o c.fs u r red = true ∧ (red = true → c.strongRedirects = true ∧ F u)
  | .skip => True

theorem LoopEv.guarded {o : Oracles} {c : Cfg} {r : Rec} {F : Info → Prop} :
    ∀ {ev : Ev}, LoopEv o c r F ev → Guarded o c r ev
  | .robotsTxt _, ⟨hr, hc, _⟩ => ⟨hr, _, hc⟩
  | .request _ _, ⟨hc, _⟩ => hc
  | .skip, _ => trivial

/-- The redirect targets of a loop entered at `next` with redirect flag `redir`, over the answers `resps`. -/
def Flagged (next : Info) (redir : Bool) (resps : List Resp) (u : Info) : Prop :=
  (redir = true ∧ u = next) ∨ ∃ rb, Resp.redirect u rb ∈ resps

theorem webLoop_events (o : Oracles) (c : Cfg) (hv : c.virtual = false) (r : Rec) {F : Info → Prop} :
    ∀ (resps : List Resp) (next : Info) (redir : Bool) (rob : RobotsOutcome),
      (redir = true → F next) → (∀ u rb, Resp.redirect u rb ∈ resps → F u) →
      ∀ ev ∈ webLoop o c r next redir rob resps, LoopEv o c r F ev
  | resps, next, redir, rob, hnext, hresps, ev, hev => by
    unfold webLoop at hev
    simp only [checkSubsequent, hv, Bool.false_eq_true, ↓reduceIte] at hev
    cases hc : consultOk o c.fs next r (c.strongRedirects && redir)
    · rw [hc] at hev
      rw [List.mem_singleton.1 hev]
      trivial
    · simp only [hc, Bool.not_true, Bool.false_eq_true, ↓reduceIte] at hev
      rcases mem_gated hev with ⟨hb, rfl⟩ | rfl | hgo
      · obtain ⟨rfl, hr⟩ := Bool.and_eq_true_iff.1 hb
        exact ⟨hr, by rwa [Bool.and_true] at hc, hnext rfl⟩
      · trivial
      · rcases List.mem_cons.1 hgo with rfl | htail
        · exact ⟨hc, fun e => ⟨(Bool.and_eq_true_iff.1 e).1, hnext (Bool.and_eq_true_iff.1 e).2⟩⟩
        · -- the later passes (after the last answer and after `.finish` nothing follows: there `htail` has no case)
          match resps, hresps, htail with
          | .redirect t rb :: rest, hresps, h =>
            exact webLoop_events o c hv r rest t true rb (fun _ => hresps t rb (.head _))
              (fun u rb' h' => hresps u rb' (.tail _ h')) ev h
          | .retrySame :: rest, hresps, h =>
            exact webLoop_events o c hv r rest next false _ nofun (fun u rb' h' => hresps u rb' (.tail _ h')) ev h

/-- The waiver flag is only ever raised for the target of a redirect the server sent in this session (or for the
URL the loop is entered with, if entered with the flag: `webProcess` enters it without), and only with strong
redirects enabled. -/
theorem webLoop_flag_only_for_redirect_targets (o : Oracles) (c : Cfg) (hv : c.virtual = false) (r : Rec) (resps : List Resp) :
    ∀ (next : Info) (redir : Bool) (rob : RobotsOutcome) (u : Info),
      Ev.request u true ∈ webLoop o c r next redir rob resps →
      c.strongRedirects = true ∧ ((redir = true ∧ u = next) ∨ ∃ rb, Resp.redirect u rb ∈ resps) :=
  fun next redir rob _ h =>
    (webLoop_events o c hv r (F := Flagged next redir resps) resps next redir rob (fun h => .inl ⟨h, rfl⟩)
      (fun _ rb h => .inr ⟨rb, h⟩) _ h).2 rfl

/-- Inside the loop robots.txt is fetched only for the target of a redirect the server sent. -/
theorem webLoop_robots_only_for_redirect_targets (o : Oracles) (c : Cfg) (hv : c.virtual = false) (r : Rec) (resps : List Resp) :
    ∀ (next : Info) (redir : Bool) (rob : RobotsOutcome) (u : Info),
      Ev.robotsTxt u ∈ webLoop o c r next redir rob resps →
      (redir = true ∧ u = next) ∨ ∃ rb, Resp.redirect u rb ∈ resps :=
  fun next redir rob _ h =>
    (webLoop_events o c hv r (F := Flagged next redir resps) resps next redir rob (fun h => .inl ⟨h, rfl⟩)
      (fun _ rb h => .inr ⟨rb, h⟩) _ h).2.2

theorem webProcess_events (o : Oracles) (c : Cfg) (hv : c.virtual = false) (r : Rec) (u0 : Info) (rob : RobotsOutcome)
    (resps : List Resp) :
    ∀ ev ∈ webProcess o c r u0 rob resps,
      (ev = .robotsTxt u0 ∧ c.robots = true ∧ consultOk o c.fs u0 r false = true) ∨
      LoopEv o c r (fun u => ∃ rb, Resp.redirect u rb ∈ resps) ev := by
  intro ev hev
  unfold webProcess at hev
  cases h0 : consultOk o c.fs u0 r false
  · simp only [h0, Bool.false_and, Bool.not_false, Bool.false_eq_true, ↓reduceIte] at hev
    rw [List.mem_singleton.1 hev]
    exact .inr trivial
  · simp only [h0, Bool.true_and, Bool.not_true, Bool.false_eq_true, ↓reduceIte] at hev
    rcases mem_gated hev with ⟨hr, rfl⟩ | rfl | h
    · exact .inl ⟨rfl, hr, rfl⟩
    · exact .inr trivial
    · exact .inr (webLoop_events o c hv r resps u0 false _ nofun (fun _ rb h => ⟨rb, h⟩) ev h)

/-- Every request and robots.txt fetch of a web session is guarded (`Guarded`), for all robots outcomes and every
sequence of server answers (redirect targets chosen by the adversary). -/
theorem web_requests_guarded (o : Oracles) (c : Cfg) (hv : c.virtual = false) (r : Rec) (u0 : Info) (rob : RobotsOutcome)
    (resps : List Resp) :
    ∀ ev ∈ webProcess o c r u0 rob resps, Guarded o c r ev := by
  intro ev hev
  rcases webProcess_events o c hv r u0 rob resps ev hev with ⟨rfl, hr, h0⟩ | h
  · exact ⟨hr, false, h0⟩
  · exact h.guarded

/-- robots.txt is fetched only with a checker configured, and only for
the item URL or the target of a redirect the server sent, after that URL passed the consultation. -/
theorem web_robots_only_for_visited_origins (o : Oracles) (c : Cfg) (hv : c.virtual = false) (r : Rec) (u0 : Info)
    (rob : RobotsOutcome) (resps : List Resp) (u : Info)
    (h : Ev.robotsTxt u ∈ webProcess o c r u0 rob resps) :
    c.robots = true ∧ (∃ red, consultOk o c.fs u r red = true) ∧
      (u = u0 ∨ ∃ rb, Resp.redirect u rb ∈ resps) := by
  rcases webProcess_events o c hv r u0 rob resps _ h with ⟨h, hr, h0⟩ | ⟨hr, hc, hf⟩
  · cases h
    exact ⟨hr, ⟨_, h0⟩, .inl rfl⟩
  · exact ⟨hr, ⟨_, hc⟩, .inr hf⟩

/-- C02 for the web session, in the property's words: every URL a web session requests passes every
configured filter — except that the target of a redirect sent by the server may, with strong redirects enabled,
fail exactly one filter, which is then a span-hosts filter.  (robots.txt fetches are the other documented
exception, see `web_robots_only_for_visited_origins`.) -/
theorem web_requests_in_scope (o : Oracles) (c : Cfg) (hv : c.virtual = false) (r : Rec) (u0 : Info) (rob : RobotsOutcome)
    (resps : List Resp) (u : Info) (red : Bool)
    (h : Ev.request u red ∈ webProcess o c r u0 rob resps) :
    (c.fs.all (fun f => f.test o u r) = true) ∨
    (red = true ∧ c.strongRedirects = true ∧ (∃ rb, Resp.redirect u rb ∈ resps) ∧
      ∃ f, (testInfo o c.fs u r).failed = [f] ∧ f.isSpanHosts = true) := by
  rcases webProcess_events o c hv r u0 rob resps _ h with ⟨h, _⟩ | ⟨hc, hf⟩
  · cases h
  · rcases waiver_only_span_hosts o c.fs u r red hc with hall | ⟨rfl, hspan⟩
    · exact .inl (verdict_is_conjunction o c.fs u r ▸ hall)
    · exact .inr ⟨rfl, (hf rfl).1, (hf rfl).2, hspan⟩

def FtpEv (o : Oracles) (fs : List Filter) (r : Rec) : Ev → Prop
  | .request u red => red = false ∧ consultOk o fs u r false = true
  | .skip => True
  | .robotsTxt _ => False

theorem ftpProcess_events (o : Oracles) (fs : List Filter) (r : Rec) (u0 : Info) (shape : FtpShape)
    (perm : Option Info) :
    ∀ ev ∈ ftpProcess o fs r u0 shape perm, FtpEv o fs r ev := by
  -- along the text of `ftpProcess`: each request stands under the test of its URL
  have req : ∀ {x}, consultOk o fs x r false = true → ∀ ev ∈ [Ev.request x false], FtpEv o fs r ev :=
    fun hx => List.forall_mem_singleton.2 ⟨rfl, hx⟩
  unfold ftpProcess
  split
  · exact List.forall_mem_singleton.2 trivial
  · extract_lets probeEvs final
    have hprobe : ∀ ev ∈ probeEvs.1, FtpEv o fs r ev := by
      unfold probeEvs
      split
      · exact List.forall_mem_nil _
      · exact List.forall_mem_nil _
      · exact List.forall_mem_nil _
      · -- `.probe`, the one shape with a request of its own
        split
        · exact req ‹_›
        · exact List.forall_mem_nil _
    split
    · exact List.forall_mem_append.2 ⟨hprobe, List.forall_mem_singleton.2 trivial⟩
    · rename_i hf
      refine List.forall_mem_append.2 ⟨List.forall_mem_append.2 ⟨hprobe, req (by simpa using hf)⟩, ?_⟩
      split
      · split
        · exact req ‹_›
        · exact List.forall_mem_nil _
      · exact List.forall_mem_nil _

/-- FTP knows no waiver: every request of an FTP session (item URL, parent-directory probe, glob directory,
slash-suffixed directory, permission probe) is for a URL that passes every configured filter. -/
theorem ftp_requests_in_scope (o : Oracles) (fs : List Filter) (r : Rec) (u0 : Info) (shape : FtpShape)
    (perm : Option Info) (u : Info) (red : Bool)
    (h : Ev.request u red ∈ ftpProcess o fs r u0 shape perm) :
    red = false ∧ fs.all (fun f => f.test o u r) = true :=
  have ⟨hred, hc⟩ := ftpProcess_events o fs r u0 shape perm _ h
  ⟨hred, no_waiver_without_redirect o fs u r ▸ hc⟩

/-- The depth the property implies for a listing link: the files a glob pattern matches are what
the user named (they stay at the depth of the glob item); a matched directory, and every entry of a
plain listing, is one link further. -/
def linkDistance (s : ListingStep) (parentDepth : Nat) : Nat :=
  if s.parentGlob && !s.isDir then parentDepth else parentDepth + 1

def distanceAlong : Nat → List ListingStep → Nat
  | d, [] => d
  | d, s :: rest => distanceAlong (linkDistance s d) rest

theorem listingChildLevel_eq_linkDistance (s : ListingStep) (l : Nat) :
    listingChildLevel s.parentGlob s.isDir l = linkDistance s l := by
  unfold listingChildLevel linkDistance
  cases s.parentGlob <;> cases s.isDir <;> simp

/-- Along every chain of FTP listing links (glob or plain parents, directory or file entries) the `level` the
code records equals the link distance from the start item. -/
theorem ftp_record_level_is_link_distance (r : Rec) (u : Info) (path : List ListingStep) :
    (recordAlong r u path).1.level = distanceAlong r.level path := by
  induction path generalizing r u with
  | nil => rfl
  | cons s rest ih =>
    rw [recordAlong, ih, distanceAlong, ← listingChildLevel_eq_linkDistance]
    rfl

/-- For the item reached along any chain of listing links, every request its session makes passes every configured
filter under a record whose `level` is the true link distance (so neither the recursion switch nor the depth limit
can be outrun through a glob or a listing). -/
theorem ftp_crawl_requests_in_scope (o : Oracles) (fs : List Filter) (r : Rec) (u : Info)
    (path : List ListingStep) (shape : FtpShape) (perm : Option Info) (v : Info) (red : Bool)
    (h : Ev.request v red ∈ ftpProcess o fs (recordAlong r u path).1 (recordAlong r u path).2 shape perm) :
    red = false ∧ (recordAlong r u path).1.level = distanceAlong r.level path ∧
      fs.all (fun f => f.test o v (recordAlong r u path).1) = true :=
  have ⟨hred, hall⟩ := ftp_requests_in_scope o fs _ _ shape perm v red h
  ⟨hred, ftp_record_level_is_link_distance r u path, hall⟩

def trailingInline (path : List LinkStep) : Nat := (path.reverse.takeWhile (fun s => s.inline)).length

theorem trailingInline_append (path : List LinkStep) (s : LinkStep) :
    trailingInline (path ++ [s]) = if s.inline then trailingInline path + 1 else 0 := by
  unfold trailingInline
  cases h : s.inline <;> simp [h]

theorem httpRecordAlong_append (r : Rec) (u : Info) (path : List LinkStep) (s : LinkStep) :
    httpRecordAlong r u (path ++ [s]) =
      (httpChildRecord (httpRecordAlong r u path).1 (httpRecordAlong r u path).2 s, s.child) := by
  simp [httpRecordAlong, List.foldl_append]

/-- From a command-line URL (not inline), along every chain of scraped links, the stored `level` is the number of
links and the stored `inline_level` is the number of consecutive embedding steps the chain ends with — `None` as
soon as the last step is a plain hyperlink, however deeply embedded the document it was found in. -/
theorem http_record_is_link_kind_record (r : Rec) (u : Info) (path : List LinkStep)
    (h0 : r.inlineLevel = none) :
    (httpRecordAlong r u path).1.level = r.level + path.length ∧
    (httpRecordAlong r u path).1.inlineLevel =
      (if trailingInline path = 0 then none else some (trailingInline path)) := by
  -- what the last link does determines both sides: induction from the end of the chain, `path = l.reverse`
  rw [← path.reverse_reverse]
  generalize path.reverse = l
  induction l with
  | nil => simp [httpRecordAlong, trailingInline, h0]
  | cons s t ih =>
    rw [List.reverse_cons, httpRecordAlong_append, trailingInline_append]
    obtain ⟨hl, hi⟩ := ih
    constructor
    · simp [httpChildRecord, hl, Nat.add_assoc]
    · cases hs : s.inline
      · simp [httpChildRecord, hs]
      · simp only [httpChildRecord, hs, ↓reduceIte, hi]
        by_cases ht : trailingInline t.reverse = 0 <;> simp [ht]

/-- A plain hyperlink is never stored as a page requisite, so none of the rules relaxed for
requisites (no-parent, span-hosts-allow page-requisites, the +2 depth allowance) applies to it. -/
theorem plain_link_is_not_inline (r : Rec) (u : Info) (path : List LinkStep) (s : LinkStep)
    (hs : s.inline = false) : truthy (httpRecordAlong r u (path ++ [s])).1.inlineLevel = false := by
  rw [httpRecordAlong_append]
  simp [httpChildRecord, hs, truthy]

/-- The URLs `--sitemaps` derives carry the link record of the page they were derived from: one link
below the item, the item as parent, the item's root (or the item) as root (so `--no-parent` measures them
against the start URL, not against themselves), not a requisite. -/
theorem extra_urls_are_children (sitemaps : Bool) (r : Rec) (item rb sm : Info) :
    ∀ p ∈ addExtraUrls sitemaps r item rb sm,
      p.1.level = r.level + 1 ∧ p.1.parent = some item ∧ p.1.inlineLevel = none ∧
      p.1.root = (match r.root with | some t => some t | none => some item) ∧ (p.2 = rb ∨ p.2 = sm) := by
  intro p hp
  unfold addExtraUrls at hp
  split at hp
  · simp at hp
    rcases hp with rfl | rfl <;> simp [httpChildRecord] <;> cases r.root <;> rfl
  · simp at hp

/-- Without `--recursive` the URLs `--sitemaps` derives are never requested (whatever the other options; not
even as a redirect target): they are one link below the item (`extra_urls_are_children`). -/
theorem extra_urls_need_recursion (o : Oracles) (fs : List Filter) (pq : Bool) (sitemaps : Bool)
    (r : Rec) (item rb sm : Info) (hrec : Filter.recursive false pq ∈ fs) :
    ∀ p ∈ addExtraUrls sitemaps r item rb sm, ∀ v red, consultOk o fs v p.1 red = false := by
  intro p hp v red
  obtain ⟨hl, _, hi, _, _⟩ := extra_urls_are_children sitemaps r item rb sm p hp
  have hfail : (Filter.recursive false pq).test o v p.1 = false := by
    simp [Filter.test, hl, hi, truthy]
  -- a failing filter that is no span-hosts filter: no "fetch", waiver or not
  cases hc : consultOk o fs v p.1 red
  · rfl
  · cases (waiver_others_pass o fs v p.1 red hc _ hrec hfail).2

/-- With a truthy `is_virtual` every in-loop check says "fetch": the guard theorems above are about
ordinary crawl items (`c.virtual = false`, monitored on the real `ItemSession` on every run). -/
theorem virtual_item_waives_everything (o : Oracles) (c : Cfg) (hv : c.virtual = true) (u : Info) (r : Rec) (red : Bool) :
    checkSubsequent o c u r red = true := by simp [checkSubsequent, hv]

theorem tryCountAfter_eq (n : Nat) : tryCountAfter n = n := by
  induction n with
  | zero => rfl
  | succ n ih => simp [tryCountAfter, checkInTryCount, ih]

/-- After `n` counted visits of a URL the stored try count is `n`, so
`TriesFilter(m)` (m > 0) accepts the next visit exactly when fewer than `m` visits were made. -/
theorem tries_filter_counts_visits (o : Oracles) (m n : Nat) (u : Info) (r : Rec) (hm : m ≠ 0) :
    (Filter.tries m).test o u { r with tryCount := tryCountAfter n } = decide (n < m) := by
  simp [Filter.test, tryCountAfter_eq, hm]

/-- `Filter.pyStrip` and `Filter.isPySpace` repeat `strip` and `isPySpace` of `Wpull/Py/Str.lean`. -/
theorem pyStrip_eq_strip (s : Str) : pyStrip s = strip s := rfl

theorem pyStrip_prefix (s : Str) : pyStrip s <+: s.dropWhile isPySpace := by
  simpa [pyStrip] using (List.dropWhile_suffix (l := (s.dropWhile isPySpace).reverse) isPySpace).reverse

theorem pyStrip_head {s : Str} {a : Nat} (h : (pyStrip s).head? = some a) : isPySpace a = false := by
  obtain ⟨t, ht⟩ := pyStrip_prefix s
  have := List.head?_dropWhile_not isPySpace s
  rwa [← ht, List.head?_append, h] at this

theorem pyStrip_getLast {s : Str} {a : Nat} (h : (pyStrip s).getLast? = some a) : isPySpace a = false := by
  rw [pyStrip, List.getLast?_reverse] at h
  have := List.head?_dropWhile_not isPySpace (s.dropWhile isPySpace).reverse
  rwa [h] at this

/-- What `comma_list` hands to the filters: no entry is empty, none begins or ends with a
blank, none contains a comma — so `-D 'a.test, b.test,'` means exactly `a.test` and `b.test`. -/
theorem commaList_entries_clean (s : Str) :
    ∀ e ∈ commaList s, e ≠ [] ∧ (∀ a, e.head? = some a → isPySpace a = false) ∧
      (∀ a, e.getLast? = some a → isPySpace a = false) ∧ 44 ∉ e := by
  intro e he
  simp only [commaList, List.mem_filter, List.mem_map] at he
  obtain ⟨⟨x, hx, rfl⟩, hne⟩ := he
  exact ⟨by simpa using hne, fun _ => pyStrip_head, fun _ => pyStrip_getLast,
    fun h => (mem_splitC 44 s x (splitOn1_eq_splitC s 44 ▸ hx)).1 (strip_subset x (pyStrip_eq_strip x ▸ h))⟩

/-! Test vectors.  Where the data holds long string literals these are first rewritten with `lit_ofList`: the
kernel's `String.toList` on a literal is quadratic in its length. -/

/-- no regex / fnmatch pattern ever matches -/
def o0 : Oracles := ⟨fun _ _ => false, fun _ _ => false, fun _ _ => false⟩
/-- `re.search('/$', s)` for the two strings used below, nothing else matches -/
def oSlash : Oracles :=
  ⟨fun p s => p == lit "/$" && (s == lit "ftp://a/pub/" || s == lit "ftp://a/pub/sub/"), fun _ _ => false, fun _ _ => false⟩
def uA : Info := ⟨lit "http", some (lit "a"), some 80, lit "/x", lit "http://a/x"⟩
def uB : Info := ⟨lit "http", some (lit "b"), some 80, lit "/y", lit "http://b/y"⟩
def fFile : Info := ⟨lit "ftp", some (lit "a"), some 21, lit "/pub/file.txt", lit "ftp://a/pub/file.txt"⟩
def fDir : Info := ⟨lit "ftp", some (lit "a"), some 21, lit "/pub/", lit "ftp://a/pub/"⟩
def r0 : Rec := ⟨none, none, 0, none, 0⟩
/-- default command line, start URL on host `a` -/
def fs0 : List Filter := buildFilters { tableHostnames := [lit "a"] }
/-- `-t 1` -/
def fs1 : List Filter := buildFilters { tableHostnames := [lit "a"], tries := 1 }
/-- `--reject-regex '/$'` -/
def fs2 : List Filter := buildFilters { tableHostnames := [lit "a"], rejectRegex := lit "/$" }

example : (fs0.map Filter.name) = ["SchemeFilter", "RecursiveFilter", "FollowFTPFilter", "TriesFilter", "LevelFilter",
    "SpanHostsFilter"] := by decide +kernel
example : (testInfo o0 fs0 uA r0).verdict = true := by decide +kernel
example : (testInfo o0 fs0 uB r0).verdict = false ∧ ((testInfo o0 fs0 uB r0).failed.map Filter.name) = ["SpanHostsFilter"] := by
  decide +kernel
-- the waiver: redirect + span-hosts alone
example : (consult o0 fs0 uB r0 true).verdict = true ∧ (consult o0 fs0 uB r0 true).reason = "redirect" := by decide +kernel
example : (consult o0 fs0 uB r0 false).verdict = false := by decide +kernel
-- a second failing rule (retry limit reached): no waiver
example : (consult o0 fs1 uB { r0 with tryCount := 1 } true).verdict = false := by decide +kernel
-- web sessions: strong redirects on / off
example : webProcess o0 ⟨fs0, true, false, false⟩ r0 uA (.cached true) [.redirect uB (.fetched true), .finish]
    = [.request uA false, .request uB true] := by decide +kernel
example : webProcess o0 ⟨fs0, false, false, false⟩ r0 uA (.cached true) [.redirect uB (.fetched true), .finish]
    = [.request uA false, .skip] := by decide +kernel
-- robots.txt of the redirect target's origin is consulted after the filters accepted the target
example : webProcess o0 ⟨fs0, true, true, false⟩ r0 uA (.fetched true) [.redirect uB (.fetched true), .finish]
    = [.robotsTxt uA, .request uA false, .robotsTxt uB, .request uB true] := by decide +kernel
example : webProcess o0 ⟨fs0, true, true, false⟩ r0 uA (.cached true) [.redirect uB (.fetched false), .finish]
    = [.request uA false, .robotsTxt uB, .skip] := by decide +kernel
-- ... and never for a target the filters refused
example : webProcess o0 ⟨fs0, false, true, false⟩ r0 uA (.cached true) [.redirect uB (.fetched true), .finish]
    = [.request uA false, .skip] := by decide +kernel
example : webProcess o0 ⟨fs0, true, true, false⟩ r0 uA (.fetched true) [.finish]
    = [.robotsTxt uA, .request uA false] := by decide +kernel
example : webProcess o0 ⟨fs0, true, true, false⟩ r0 uB (.fetched true) [.finish] = [.skip] := by decide +kernel
-- a truthy is_virtual (a bound method instead of a property, say) lets a refused redirect target through
example : webProcess o0 ⟨fs0, false, false, true⟩ r0 uA (.cached true) [.redirect uB (.fetched true), .finish]
    = [.request uA false, .request uB false] := by decide +kernel
-- ftp sessions: the parent probe is made when in scope, dropped when the directory URL is rejected
example : ftpProcess o0 fs0 r0 fFile (.probe fDir none) none = [.request fDir false, .request fFile false] := by
  unfold fs0 fFile fDir; repeat rw [lit_ofList]
  decide +kernel
example : ftpProcess oSlash fs2 r0 fFile (.probe fDir none) none = [.request fFile false] := by
  unfold oSlash fs2 fFile fDir; repeat rw [lit_ofList]
  decide +kernel
example : ftpProcess oSlash fs2 r0 fFile (.glob fDir) none = [.skip] := by
  unfold oSlash fs2 fFile fDir; repeat rw [lit_ofList]
  decide +kernel
-- listing links: a glob-matched directory is one level down, a glob-matched file is not
example : listingChildLevel true true 0 = 1 ∧ listingChildLevel true false 0 = 0 ∧
    listingChildLevel false true 0 = 1 ∧ listingChildLevel false false 0 = 1 := by decide +kernel
-- without -r the directory a command-line glob matched is not listed (its record is at level 1)
example : ftpProcess o0 fs0 (recordAlong r0 fFile [⟨true, true, fDir⟩]).1 fDir .known none = [.skip] := by decide +kernel
example : ftpProcess o0 fs0 (recordAlong r0 fDir [⟨true, false, fFile⟩]).1 fFile .known none = [.request fFile false] := by
  unfold fs0 fFile fDir; repeat rw [lit_ofList]
  decide +kernel
-- a plain link found inside an embedded document is not a requisite; an image inside it is requisite depth 2
example : (httpRecordAlong r0 uA [⟨true, uB⟩, ⟨false, uA⟩]).1.inlineLevel = none ∧
    (httpRecordAlong r0 uA [⟨true, uB⟩, ⟨true, uA⟩]).1.inlineLevel = some 2 ∧
    (httpRecordAlong r0 uA [⟨true, uB⟩, ⟨false, uA⟩]).1.level = 2 := by decide +kernel
-- comma lists: blanks around commas, empty entries, trailing comma
example : commaList (lit " a.test , b.test,, ") = [lit "a.test", lit "b.test"] := by
  repeat rw [lit_ofList]
  decide +kernel
example : commaList (lit "") = [] := by decide +kernel
-- a listed directory covers its tree (the fnmatch oracle sees the pattern with `*` appended)
example : isSubdir ⟨fun _ _ => false, fun n p => n == lit "/private/sub/x/" && p == lit "/private/*", fun _ _ => false⟩
    (lit "/private") (lit "/private/sub/x") false true = true := by
  repeat rw [lit_ofList]
  decide +kernel
-- --sitemaps without -r: the two site files are queued one link below the start page and then refused
example : (addExtraUrls true r0 uA uB uA).map (fun p => (p.1.level, consultOk o0 fs0 p.2 p.1 false)) = [(1, false), (1, false)] := by
  decide +kernel

end Wpull.Filter
