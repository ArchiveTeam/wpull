/-
C09 — a status code is a number below 1000.

`Response.parse_status_line` (model: `Wpull.HttpWire.parseStatusLine`, tied by the `py status` stream of the
HTTP wire engine) reads at most three decimal digits for the code, whatever the server sends.  The rest of the
crawler relies on it: the code goes into an integer column of the URL table, into `%d`-style log lines and into
the WARC / CDX writers.  A parser that read `\d+` would hand the table a number it cannot store (seeded change
C09-21 in DESIGN.md).
-/
import Wpull.HttpWirePy
import Proofs.Lemmas.Lit
namespace Wpull.HttpWire

theorem takeDigits_digits (l : List Nat) : ∀ c ∈ (takeDigits l).1, isAsciiDigit c = true := by
  induction l with
  | nil => simp [takeDigits]
  | cons a t ih =>
    rw [takeDigits]
    split
    · rename_i ha; exact List.forall_mem_cons.mpr ⟨ha, ih⟩
    · simp

theorem digitsVal_foldl_lt (d : List Nat) (hd : ∀ c ∈ d, isAsciiDigit c = true) (a : Nat) :
    d.foldl (fun a c => a * 10 + (c - 48)) a < (a + 1) * 10 ^ d.length := by
  induction d generalizing a with
  | nil => simp
  | cons c t ih =>
    obtain ⟨hc, ht⟩ := List.forall_mem_cons.1 hd
    simp only [isAsciiDigit, Bool.and_eq_true, decide_eq_true_eq] at hc
    calc _ < (a * 10 + (c - 48) + 1) * 10 ^ t.length := ih ht _
      _ ≤ ((a + 1) * 10) * 10 ^ t.length := Nat.mul_le_mul_right _ (by omega)
      _ = (a + 1) * 10 ^ (t.length + 1) := by rw [Nat.pow_succ, Nat.mul_assoc, Nat.mul_comm 10]

theorem digitsVal_lt (d : List Nat) (hd : ∀ c ∈ d, isAsciiDigit c = true) : digitsVal d < 10 ^ d.length := by
  simpa [digitsVal] using digitsVal_foldl_lt d hd 0

/-- Whatever the server writes as its status line: if the line is accepted at all, the code is below 1000. -/
theorem status_code_below_1000 (line : Bytes) (st : Status) (h : parseStatusLine line = some st) :
    st.code < 1000 := by
  simp only [parseStatusLine, Option.ite_none_left_eq_some] at h
  obtain ⟨-, -, h⟩ := h
  split at h
  · simp only [Option.ite_none_left_eq_some, Option.some.injEq] at h
    obtain ⟨-, -, -, rfl⟩ := h
    calc _ < 10 ^ ((takeDigits _).1.take 3).length :=
          digitsVal_lt _ fun c hc => takeDigits_digits _ c (List.mem_of_mem_take hc)
      _ ≤ 10 ^ 3 := Nat.pow_le_pow_right (by decide) (by simp; omega)
  · cases h

/-- the bound is reached, and a long run of digits is cut, not refused -/
example : (parseStatusLine (lit "HTTP/1.1 999 x")).map (·.code) = some 999 := by
  rw [lit_ofList]; decide +kernel
example : (parseStatusLine (lit "HTTP/1.1 9223372036854775808 OK")).map (·.code) = some 922 := by
  rw [lit_ofList]; decide +kernel

end Wpull.HttpWire
