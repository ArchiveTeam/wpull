/-
C10 — composition of the component theorems into whole-URL statements.  The core is `parse_assembled`: a text put
together from a network scheme, normalised user info, a host text, a port and a path and query in normal form parses
back into exactly these parts and is its own normal form.  `norm_main` applies it to the parts of a first parse
(`NetParts`), each brought into that form by its `…_reparse` lemma; Proofs/C11Extra.lean applies it to the
`--sitemaps` texts.  `host_printable` is a strand of its own.
-/
import Proofs.Lemmas.Split
import Proofs.C10
namespace Wpull.Url

theorem url_congr {i j : URLInfo} (h1 : j.scheme = i.scheme) (h2 : j.username = i.username)
    (h3 : j.password = i.password) (h4 : j.hostname = i.hostname) (h5 : j.isIPv6 = i.isIPv6)
    (h6 : j.port = i.port) (h7 : j.path = i.path) (h8 : j.query = i.query)
    (hraw : netScheme? i.scheme ≠ none) : j.url = i.url := by
  unfold URLInfo.url
  rw [h1, h2, h3, h4, h5, h6, h7, h8]
  cases hn : netScheme? i.scheme with
  | none => exact absurd hn hraw
  | some p => rfl

/-- what is assumed about the IPv6 parameter (`ipaddress.IPv6Address(x).compressed`): the compressed form consists of
lower-case hex digits, `:` and `.`, is not empty, and is accepted unchanged when parsed again.  Monitored by the
harness on every logged call. -/
structure V6Params (c c' : Cfg) : Prop where
  ipv6_chars : ∀ x y, c.ipv6 x = .ok y → y ≠ [] ∧
    ∀ ch ∈ y, (48 ≤ ch ∧ ch ≤ 57) ∨ (97 ≤ ch ∧ ch ≤ 102) ∨ ch = 58 ∨ ch = 46
  ipv6_fixed : ∀ x y, c.ipv6 x = .ok y → c'.ipv6 y = .ok y

theorem V6Params.no_bracket {c c' : Cfg} (hv : V6Params c c') (x y : Str) (h : c.ipv6 x = .ok y) :
    y.contains 91 = false ∧ y.contains 93 = false := by
  have hch := (hv.ipv6_chars x y h).2
  constructor <;> refine Bool.eq_false_iff.2 fun hc => ?_
  · have := hch 91 (by simpa using hc); omega
  · have := hch 93 (by simpa using hc); omega

/-- `H` is the host text of a normal form for the host name `hn`: `hn` itself, or `[hn]` for an IPv6
address; `c'` is the configuration of the parse that reads it back -/
structure HostPart (c' : Cfg) (H hn : Str) : Prop where
  reparse : parseHostname c' H = .ok hn
  noport : endsWith H [93] = true ∨ 58 ∉ H
  shape : (if startsWith H [91] then [91] ++ hn ++ [93] else hn) = H
  /-- the premise holds only relative to `PrintParams` (`parseHostname_print`) -/
  chars : (∀ y ∈ hn, 0x20 < y) → ∀ x ∈ H, ((0x20 < x ∧ x < 0x80) ∧ x ≠ 47 ∧ x ≠ 63 ∧ x ≠ 35) ∧ x ≠ 64

theorem hostpart_reparse (c c' : Cfg) (hv : V6Params c c') {arg hn : Str}
    (hh : parseHostname c arg = .ok hn) :
    HostPart c' (if startsWith arg [91] then [91] ++ hn ++ [93] else hn) hn := by
  cases hb : startsWith arg [91] with
  | false =>
    have hf := parseHostname_forbidden hb hh
    have hnb := startsWith_of_not_mem (forbidden_not_mem hf 91)
    exact ⟨hostname_idem c c' hb hh, .inr (forbidden_not_mem hf 58), by simp [hnb],
      fun hy x hx => ⟨⟨⟨hy x hx, (hostname_lower_ascii c hb hh x hx).1⟩,
        fun e => (forbidden_not_mem hf 47) (e ▸ hx), fun e => (forbidden_not_mem hf 63) (e ▸ hx),
        fun e => (forbidden_not_mem hf 35) (e ▸ hx)⟩, fun e => (forbidden_not_mem hf 64) (e ▸ hx)⟩⟩
  | true =>
    have hx := ((parseHostname_v6 hb).1 hh).2.2
    obtain ⟨_, hch⟩ := hv.ipv6_chars _ hn hx
    have hmem : ∀ d ∈ [91] ++ hn ++ [93], d = 91 ∨ d = 93 ∨
        (48 ≤ d ∧ d ≤ 57) ∨ (97 ≤ d ∧ d ≤ 102) ∨ d = 58 ∨ d = 46 :=
      List.forall_concat (List.forall_mem_cons.2 ⟨.inl rfl, fun d h => .inr (.inr (hch d h))⟩) (.inr (.inl rfl))
    have hs : startsWith ([91] ++ hn ++ [93]) [91] = true := by simp [startsWith]
    have he : endsWith ([91] ++ hn ++ [93]) [93] = true := endsWith_append _ _
    have hsl : pySlice ([91] ++ hn ++ [93]) 1 (([91] ++ hn ++ [93]).length - 1) = hn := by
      simp [pySlice]
    refine ⟨(parseHostname_v6 hs).2 ⟨he, ?_, hsl.symm ▸ hv.ipv6_fixed _ hn hx⟩, .inl he, if_pos hs, ?_⟩
    · refine Bool.eq_false_iff.2 fun hc => ?_
      have := hmem 37 (by simpa using hc)
      omega
    · intro _ d hd
      have := hmem d hd
      omega

theorem normWith_out {enc : Str → Except PyExc Bytes} (henc : SegSafe enc) {set : List Nat} {t r : Str}
    (h : normWith enc set t = .ok r) : ∀ c ∈ r, OutChar set c := by
  obtain ⟨bs, hbs, rfl⟩ := normWith_ok_iff.1 h
  exact component_out (segSafe_bytes henc hbs)

/-- **C10, user info holds no bracket.**  In a normalised user name or password `[` and `]` are percent-encoded: they
cannot be taken for the brackets of an IPv6 host.  (Path and query may hold brackets.) -/
theorem userinfo_no_bracket {un pw a b : Str} (ha : normalizeUsername un = .ok a)
    (hb : normalizePassword pw = .ok b) : 91 ∉ a ∧ 93 ∉ a ∧ 91 ∉ b ∧ 93 ∉ b := by
  have ha := normWith_out utf8Enc_segSafe ha
  have hb := normWith_out utf8Enc_segSafe hb
  exact ⟨not_mem_of_out ha 91, not_mem_of_out ha 93, not_mem_of_out hb 91, not_mem_of_out hb 93⟩

theorem uiText_chars {un pw a b : Str} (ha : normalizeUsername un = .ok a) (hb : normalizePassword pw = .ok b) :
    ∀ x ∈ uiText un pw a b, (0x20 < x ∧ x < 0x80) ∧ x ≠ 47 ∧ x ≠ 63 ∧ x ≠ 35 := by
  have ha := normWith_out utf8Enc_segSafe ha
  have hb := normWith_out utf8Enc_segSafe hb
  intro x hx
  simp only [uiText, List.mem_append] at hx
  rcases hx with (hx | hx) | hx
  · have h := ha x hx
    exact ⟨outChar_print (by decide) h, outChar_ne h 47, outChar_ne h 63, outChar_ne h 35⟩
  · split at hx
    · cases hx
    · rcases List.mem_cons.1 hx with rfl | hx
      · omega
      · have h := hb x hx
        exact ⟨outChar_print (by decide) h, outChar_ne h 47, outChar_ne h 63, outChar_ne h 35⟩
  · split at hx
    · cases hx
    · cases List.mem_singleton.1 hx; omega

theorem userinfo_reparse (c' : Cfg) {un pw a b : Str}
    (ha : normalizeUsername un = .ok a) (hb : normalizePassword pw = .ok b)
    (hqu : percentDecode c' a = un) (hqp : percentDecode c' b = pw) (R : Str) (hR : 64 ∉ R) :
    (parseAuthority (uiText un pw a b ++ R)).2 = R ∧
    percentDecode c' (parseUserinfo (parseAuthority (uiText un pw a b ++ R)).1).1 = un ∧
    percentDecode c' (parseUserinfo (parseAuthority (uiText un pw a b ++ R)).1).2 = pw := by
  have hao := normWith_out utf8Enc_segSafe ha
  have hbo := normWith_out utf8Enc_segSafe hb
  have hd0 : percentDecode c' [] = [] := by simp [percentDecode]
  have h58 : 58 ∉ a := not_mem_of_out hao 58
  by_cases hp : pw = []
  · -- no password: `a@R`, or `R` alone when there is no user name either
    subst hp
    by_cases hu : un = []
    · subst hu
      rw [normalizeUsername_nil] at ha
      cases ha
      simp [uiText, parseAuthority, parseUserinfo, partition1_none hR, partition1, hd0]
    · have e : uiText un [] a b ++ R = a ++ 64 :: R := by simp [uiText, hu]
      rw [e]
      simp only [parseAuthority, partition1_append R (not_mem_of_out hao 64), if_true, parseUserinfo,
        partition1_none h58, hqu, hd0, and_self]
  · have e : uiText un pw a b ++ R = (a ++ 58 :: b) ++ 64 :: R := by simp [uiText, hp]
    have h64 : 64 ∉ a ++ 58 :: b := by
      simp [not_mem_of_out hao 64, not_mem_of_out hbo 64]
    rw [e]
    simp only [parseAuthority, partition1_append R h64, if_true, parseUserinfo, partition1_append b h58,
      hqu, hqp, and_self]

/-- `47 :: T` is a path in normal form for `c'`: `parse` cuts `T` (or `/`) out of a text that holds it,
and normalising that gives `47 :: T` again -/
structure NormalPath (c' : Cfg) (T : Str) : Prop where
  delims : 63 ∉ T ∧ 35 ∉ T
  chars : ∀ x ∈ T, 0x20 < x ∧ x < 0x80
  fixed : normalizePath c' (if T.isEmpty then [47] else T) = .ok (47 :: T)

theorem normalPath_of_clean (c' : Cfg) (hs' : SegSafe c'.encode) {segs : List Str} (hc : CleanSegs segs)
    (hout : ∀ x ∈ 47 :: joinWith [47] segs, OutChar defaultSet x)
    (hup : upperPct (47 :: joinWith [47] segs) = 47 :: joinWith [47] segs) :
    NormalPath c' (joinWith [47] segs) := by
  have hT := (List.forall_mem_cons.1 hout).2
  refine ⟨⟨not_mem_of_out hT 63, not_mem_of_out hT 35⟩, fun x hx => outChar_print (by decide) (hT x hx), ?_⟩
  have harg : normalizePath c' (if (joinWith [47] segs).isEmpty then [47] else joinWith [47] segs) =
      normWith c'.encode defaultSet (flattenPath true (47 :: joinWith [47] segs)) := by
    rw [normalizePath_eq]
    by_cases he : joinWith [47] segs = []
    · simp [he, startsWith]
    · simp [he, hc.no_leading_slash he]
  rw [harg, flattenPath_of_clean segs hc, normWith, percentEncode_of_outChar hs' defaultSet_closed hout]
  simp only [hup]

theorem path_reparse (c c' : Cfg) (hs : SegSafe c.encode) (hs' : SegSafe c'.encode) {p1 path : Str}
    (h : normalizePath c p1 = .ok path) : ∃ T, path = 47 :: T ∧ NormalPath c' T := by
  have hout := normWith_out hs h
  obtain ⟨bs, hbs, rfl⟩ := normWith_ok_iff.1 h
  obtain ⟨segs0, hc0, hf⟩ := flatten_clean (if startsWith p1 [47] then p1 else 47 :: p1)
  obtain ⟨segs, hclean, hshape⟩ := path_normal_clean hs hc0 (hf ▸ hbs)
  exact ⟨_, hshape, normalPath_of_clean c' hs' hclean (hshape ▸ hout) (hshape ▸ upperPct_idem _)⟩

structure NormalQuery (c' : Cfg) (q : Str) : Prop where
  delim : 35 ∉ q
  chars : ∀ x ∈ q, 0x20 < x ∧ x < 0x80
  fixed : normalizeQuery c' q = .ok q

theorem normalQuery_nil (c' : Cfg) (hs' : SegSafe c'.encode) : NormalQuery c' [] :=
  ⟨by simp, by simp, normalizeQuery_ok_iff.2 ⟨[], segSafe_ascii hs' (by simp), rfl⟩⟩

theorem query_reparse (c c' : Cfg) (hs : SegSafe c.encode) (hsp : SpaceSafe c.encode)
    (hs' : SegSafe c'.encode) {q1 query : Str} (h : normalizeQuery c q1 = .ok query) :
    NormalQuery c' query := by
  obtain ⟨bs, hbs, rfl⟩ := normalizeQuery_ok_iff.1 h
  have horig := pctBytes_mem (set := querySet) (segSafe_bytes hs hbs)
  -- characters of the text before upper-casing: a space was replaced by `+`, or there was none
  generalize hM : (if q1.contains 32 then replace1 32 43 (pctBytes querySet bs) else pctBytes querySet bs) = M
  have hmid : ∀ x ∈ M, OutChar querySet x ∧ x ≠ 32 := by
    subst hM
    intro x hx
    split at hx
    · rcases mem_replace1 hx with rfl | e
      · exact ⟨by decide, by omega⟩
      · exact ⟨(horig x e).imp_right And.right, ne_of_mem_replace1 (by omega) hx⟩
    · rename_i hno
      refine ⟨(horig x hx).imp_right And.right, ?_⟩
      rintro rfl
      rcases horig 32 hx with e | e
      · revert e; decide
      · exact hno (by simpa using hsp _ _ hbs e.1)
  have hout := upperPct_out fun x hx => (hmid x hx).1
  have h32 : 32 ∉ upperPct M := fun hm =>
    (upperPct_mem M 32 hm).elim (fun e => (hmid 32 e).2 rfl) (by omega)
  refine ⟨not_mem_of_out hout 35, fun x hx => ?_, ?_⟩
  · have := outChar_range (hout x hx)
    have : x ≠ 32 := fun e => h32 (e ▸ hx)
    omega
  · unfold normalizeQuery percentEncodePlus
    rw [percentEncode_of_outChar hs' querySet_closed hout]
    simp only [List.contains_eq_mem, decide_eq_false h32, Bool.false_eq_true, if_false, upperPct_idem]

theorem portText_chars (dp port : Nat) :
    ∀ x ∈ portText dp port, ((0x20 < x ∧ x < 0x80) ∧ x ≠ 47 ∧ x ≠ 63 ∧ x ≠ 35) ∧ x ≠ 64 := by
  intro x hx
  unfold portText at hx
  split at hx
  · cases hx
  · rcases List.mem_cons.1 hx with rfl | hx
    · omega
    · have := (natDec_digits port).2 x hx; omega

/-- what is assumed about the parameters when the normal form is parsed again.  `c` is the
configuration of the first parse (any document encoding), `c'` the one of the second. -/
structure ReparseParams (c c' : Cfg) : Prop where
  /-- utf-8, latin-1, ascii: `utf8Enc_segSafe`, `latin1Enc_segSafe`, `asciiEnc_segSafe`; other codecs: monitored -/
  enc_first : SegSafe c.encode
  /-- utf-8: `utf8Enc_spaceSafe`; other codecs: monitored -/
  enc_space : SpaceSafe c.encode
  /-- of the codec of the second parse the proofs use only that it is the identity on ASCII text (`segSafe_ascii`) -/
  enc_second : SegSafe c'.encode
  v6 : V6Params c c'
  /-- `unquote(percent_encode(x)) = x` for user name and password -/
  unquote_user : ∀ un a, normalizeUsername un = .ok a → percentDecode c' a = un
  unquote_pass : ∀ pw b, normalizePassword pw = .ok b → percentDecode c' b = pw

/-- `port ≠ 0`: `parse` reads `port or default`, and 0 is falsy -/
theorem parse_assembled (c' : Cfg) (hs' : SegSafe c'.encode) {sch : Str} {dp : Nat}
    (hdp : defaultPort? sch = some dp) {un pw a b : Str}
    (ha : normalizeUsername un = .ok a) (hb : normalizePassword pw = .ok b)
    (hqu : percentDecode c' a = un) (hqp : percentDecode c' b = pw)
    {H hn : Str} (hH : HostPart c' H hn) (hne : hn ≠ []) (hprint : ∀ y ∈ hn, 0x20 < y)
    {port : Nat} (hp0 : port ≠ 0) (hplt : port < 65536)
    {T : Str} (hT : NormalPath c' T) {query : Str} (hq : NormalQuery c' query) {n : Str}
    (hN : n = sch ++ 58 :: 47 :: 47 :: (uiText un pw a b ++ (H ++ portText dp port) ++
      (47 :: T ++ if query.isEmpty then [] else 63 :: query))) :
    (∀ x ∈ n, 0x20 < x ∧ x < 0x80) ∧
    ∃ j, parse c' n = .ok j ∧ j.url = .ok n ∧ j.scheme = some sch ∧ j.hostname = some hn ∧
      j.port = some port ∧ j.path = some (47 :: T) ∧ j.query = some query := by
  have hsch := scheme_lower (netScheme_of hdp)
  rw [List.cons_append] at hN
  have hP := portText_chars dp port
  have hHc := hH.chars hprint
  have hA : ∀ x ∈ uiText un pw a b ++ (H ++ portText dp port),
      (0x20 < x ∧ x < 0x80) ∧ x ≠ 47 ∧ x ≠ 63 ∧ x ≠ 35 :=
    List.forall_mem_append.2 ⟨uiText_chars ha hb,
      List.forall_mem_append.2 ⟨fun x h => (hHc x h).1, fun x h => (hP x h).1⟩⟩
  have h64 : 64 ∉ H ++ portText dp port := fun hm =>
    (List.mem_append.1 hm).elim (fun h => (hHc _ h).2 rfl) (fun h => (hP _ h).2 rfl)
  -- `n` is printable: `strip` and the C0 test do nothing
  have hS : ∀ x ∈ sch, 0x20 < x ∧ x < 0x80 := fun x h => by
    have := hsch x h
    simp only [isAsciiLower, Bool.and_eq_true, decide_eq_true_eq] at this
    omega
  have hQ : ∀ x ∈ (if query.isEmpty then [] else 63 :: query), 0x20 < x ∧ x < 0x80 := fun x h => by
    split at h
    · cases h
    · rcases List.mem_cons.1 h with rfl | h
      · omega
      · exact hq.chars x h
  have hchars : ∀ x ∈ n, 0x20 < x ∧ x < 0x80 := by
    rw [hN]
    generalize uiText un pw a b ++ (H ++ portText dp port) = A at hA
    simp only [List.forall_mem_append, List.forall_mem_cons]
    exact ⟨hS, by omega, by omega, by omega, fun x h => (hA x h).1, by omega, hT.chars, hQ⟩
  refine ⟨hchars, ?_⟩
  have hsplit := splitRem_assembled _ T query
    ⟨fun h => (hA 47 h).2.1 rfl, fun h => (hA 63 h).2.2.1 rfl, fun h => (hA 35 h).2.2.2 rfl⟩ hT.delims hq.delim
  obtain ⟨hui1, hui2, hui3⟩ := userinfo_reparse c' ha hb hqu hqp _ h64
  have hhost : parseHost c' (H ++ portText dp port) = .ok (hn, if port = dp then none else some port) := by
    unfold portText
    split
    · rw [List.append_nil]; exact parseHost_noport hH.reparse hH.noport
    · exact parseHost_port hH.reparse hplt
  have hport : effPort dp (if port = dp then none else some port) = port := by
    by_cases e : port = dp
    · simp [e, effPort]
    · simp [e, effPort, hp0]
  have hv : startsWith (H ++ portText dp port) [91] = startsWith H [91] := by
    have : H ≠ [] := by
      rw [← hH.shape]
      split
      · simp
      · exact hne
    simp [startsWith_single, List.head?_eq_some_head this]
  subst hN
  rw [parse_eq_parseNet c' _ hdp hchars]
  refine ⟨_, (parseNet_ok_iff (by simp [startsWith]) hsplit).2
    ⟨_, _, _, _, _, _, _, by rw [hui1]; exact hhost, hne, hT.fixed, hq.fixed,
      normWith_ok_iff.2 ⟨[], segSafe_ascii hs' (by simp), rfl⟩, by rw [hui2]; exact ha, by rw [hui3]; exact hb, rfl⟩, ?_⟩
  simp only [netInfo, hui1, hui2, hui3, hport, and_true]
  refine (url_shape rfl hdp rfl rfl rfl rfl rfl rfl rfl ha hb).trans ?_
  rw [hv, hH.shape]
  rfl

/-- no C0 control character (what `parse` tests on the stripped text) -/
def NoCtl (s : Str) : Prop := ∀ x ∈ s, 0x1f < x

/-- what is assumed about the parameters for `host_printable`: none of them introduces a control character or space
(CPython's `str.lower`, the `idna` codec, `IPv6Address.compressed`, and the caller's `default_scheme`) -/
structure PrintParams (c : Cfg) : Prop where
  ds : ∀ d, c.defaultScheme = some d → NoCtl d
  lower : ∀ t, NoCtl t → NoCtl (c.lowerNA t)
  idna : ∀ t b, c.idnaNA t = .ok b → NoCtl b
  ipv6 : ∀ x y, c.ipv6 x = .ok y → ∀ ch ∈ y, 0x20 < ch

theorem noCtl_colon {x y : Str} (hx : NoCtl x) (hy : NoCtl y) : NoCtl (x ++ [58] ++ y) :=
  List.forall_mem_append.2 ⟨List.forall_concat hx (by decide), hy⟩

theorem schemeSplit_noctl {c : Cfg} (hp : PrintParams c) {url : Str} (hu : NoCtl url)
    {sc : Option Str} {rem : Str} (h : schemeSplit c url = .ok (sc, rem)) : NoCtl rem := by
  have hds : NoCtl (c.defaultScheme.getD []) := by
    cases hd : c.defaultScheme with
    | none => intro x hx; simp at hx
    | some d => simpa using hp.ds d hd
  have hlow : ∀ t, NoCtl t → NoCtl (pyLower c t) := by
    intro t ht
    unfold pyLower
    split
    · exact List.forall_mem_map.2 fun y hy => Nat.lt_of_lt_of_le (ht y hy) (le_asciiLower y)
    · exact hp.lower _ ht
  unfold schemeSplit at h
  rcases partition1_cases 58 url with e | ⟨a, b, rfl, e⟩ <;>
    simp only [e, Bool.not_false, Bool.not_true, Bool.true_and, Bool.false_and, if_true,
      Bool.false_eq_true, if_false, Option.getD_some] at h
  · split at h
    · cases h
    split at h
    · cases h
    split at h
    · cases h; exact noCtl_colon hds hu
    · cases h; exact hu
  · have ha : NoCtl (pyLower c a) := hlow a fun x hx => hu x (by simp [hx])
    have hb : NoCtl b := fun x hx => hu x (by simp [hx])
    split at h
    · cases h
    split at h
    · cases h; exact noCtl_colon ha hb
    · cases h; exact hb

theorem normalizeHostname_noctl {c : Cfg} (hp : PrintParams c) {h n : Str} (hh : NoCtl h)
    (hn : normalizeHostname c h = .ok n) : NoCtl n := by
  obtain ⟨b, hb, _, rfl, _⟩ := normalizeHostname_inv hn
  have hbn : NoCtl b := by
    rcases idnaEncode_inv hb with ⟨_, rfl⟩ | ⟨_, hb⟩
    · exact hh
    · exact hp.idna _ _ hb
  exact List.forall_mem_map.2 fun z hz => Nat.lt_of_lt_of_le (hbn z hz) (le_asciiLower z)

theorem parseHostname_print {c : Cfg} (hp : PrintParams c) {arg hn : Str} (ha : NoCtl arg)
    (h : parseHostname c arg = .ok hn) : ∀ x ∈ hn, 0x20 < x := by
  cases hb : startsWith arg [91] with
  | true => exact hp.ipv6 _ _ ((parseHostname_v6 hb).1 h).2.2
  | false =>
    obtain ⟨h1, h2, hh1, hh2, hh3, hf⟩ := (parseHostname_plain hb).1 h
    -- the IPv4 stages return their argument or digits and dots
    have hip : ∀ {t r : Str}, NoCtl t → tryIpv4 t = .ok r → NoCtl r := by
      intro t r ht hr
      rcases tryIpv4_inv hr with h4 | rfl
      · obtain ⟨n, _, rfl⟩ := normalizeIpv4_inv h4
        intro y hy
        have := ipv4Compressed_chars n y hy
        omega
      · exact ht
    -- and the space is a forbidden character
    intro x hx
    have h32 : x ≠ 32 := fun e => (forbidden_not_mem hf 32) (e ▸ hx)
    have := hip (normalizeHostname_noctl hp (hip ha hh1) hh2) hh3 x hx
    omega

/-- the hypothesis of `norm_idem` / `norm_reparse` that `host_printable` discharges; the oracle checks it on every
generated URL -/
def HostPrintable (i : URLInfo) : Prop := ∀ hn, i.hostname = some hn → ∀ x ∈ hn, 0x20 < x

/-- **`HostPrintable` discharged.**  Relative to `PrintParams`, the host name of every network-scheme result holds no
character ≤ 0x20: `parse` refuses C0 characters, the forbidden set holds the space. -/
theorem host_printable (c : Cfg) (hp : PrintParams c) (s : Str) (i : URLInfo)
    (h : parse c s = .ok i) (hnet : (netScheme? i.scheme).isSome = true) :
    ∀ hn, i.hostname = some hn → ∀ x ∈ hn, 0x20 < x := by
  obtain ⟨P⟩ := netParts_of_parse h hnet
  -- the argument of `parse_hostname` is part of the text after the scheme
  have hargn : NoCtl P.arg := fun x hx => schemeSplit_noctl hp P.noCtl P.split_ok x (P.arg_sub x hx)
  intro hn hh
  cases P.hostname_eq.symm.trans hh
  exact parseHostname_print hp hargn P.hostname_ok

theorem norm_main (c c' : Cfg) (hp : ReparseParams c c') (s : Str) (i : URLInfo) (n : Str)
    (hparse : parse c s = .ok i) (hnet : (netScheme? i.scheme).isSome = true) (hurl : i.url = .ok n)
    (hprint : HostPrintable i) :
    (∃ j, parse c' n = .ok j ∧ j.url = .ok n ∧
      (j.scheme, j.hostname, j.port, j.path, j.query) = (i.scheme, i.hostname, i.port, i.path, i.query)) ∧
    ∀ x ∈ n, 0x20 < x ∧ x < 0x80 := by
  obtain ⟨P⟩ := netParts_of_parse hparse hnet
  obtain ⟨T, hpath, hT⟩ := path_reparse c c' hp.enc_first hp.enc_second P.path_ok
  have hq := query_reparse c c' hp.enc_first hp.enc_space hp.enc_second P.query_ok
  have hshape := P.url_eq
  rw [hurl, hpath] at hshape
  obtain ⟨hchars, j, hj, hju, h1, h2, h3, h4, h5⟩ := parse_assembled c' hp.enc_second P.dp_eq P.user_ok P.pass_ok
    (hp.unquote_user _ _ P.user_ok) (hp.unquote_pass _ _ P.pass_ok) (hostpart_reparse c c' hp.v6 P.hostname_ok)
    P.hn_ne (hprint _ P.hostname_eq) P.port_ne P.port_lt hT hq (Except.ok.inj hshape)
  exact ⟨⟨j, hj, hju, by
    rw [h1, h2, h3, h4, h5, P.scheme_eq, P.hostname_eq, P.port_eq, P.path_eq, hpath, P.query_eq]⟩, hchars⟩

/-- **C10, re-parse.**  For every string `s` the parser accepts with a network scheme, relative to `ReparseParams` and a
printable host name (`HostPrintable`, which `host_printable` derives from `PrintParams`), the normal form
`n = parse(s).url` is accepted again and gives back the same scheme, host name, port, path and query. -/
theorem norm_reparse (c c' : Cfg) (hp : ReparseParams c c') (s : Str) (i : URLInfo) (n : Str)
    (hparse : parse c s = .ok i) (hnet : (netScheme? i.scheme).isSome = true) (hurl : i.url = .ok n)
    (hprint : HostPrintable i) :
    ∃ j, parse c' n = .ok j ∧
      (j.scheme, j.hostname, j.port, j.path, j.query) = (i.scheme, i.hostname, i.port, i.path, i.query) := by
  obtain ⟨⟨j, hj, _, h⟩, _⟩ := norm_main c c' hp s i n hparse hnet hurl hprint
  exact ⟨j, hj, h⟩

/-- **C10, idempotence.**  Under the same hypotheses, normalising the normal form changes nothing: `parse(n).url = n`. -/
theorem norm_idem (c c' : Cfg) (hp : ReparseParams c c') (s : Str) (i : URLInfo) (n : Str)
    (hparse : parse c s = .ok i) (hnet : (netScheme? i.scheme).isSome = true) (hurl : i.url = .ok n)
    (hprint : HostPrintable i) :
    ∃ j, parse c' n = .ok j ∧ j.url = .ok n := by
  obtain ⟨⟨j, hj, hu, _⟩, _⟩ := norm_main c c' hp s i n hparse hnet hurl hprint
  exact ⟨j, hj, hu⟩

/-- the codec hypotheses hold for the model's UTF-8 encoder -/
theorem reparseParams_utf8 (c c' : Cfg) (h1 : c.encode = utf8Enc) (h2 : c'.encode = utf8Enc)
    (hv : V6Params c c')
    (hu : ∀ un a, normalizeUsername un = .ok a → percentDecode c' a = un)
    (hw : ∀ pw b, normalizePassword pw = .ok b → percentDecode c' b = pw) : ReparseParams c c' :=
  ⟨h1 ▸ utf8Enc_segSafe, h1 ▸ utf8Enc_spaceSafe, h2 ▸ utf8Enc_segSafe, hv, hu, hw⟩

/-- **C10, character class of the whole normal form.**  Every character of `n` is ASCII and above the space: no white
space, no C0 control (DEL is not excluded: a host name can hold it). -/
theorem norm_ascii (c c' : Cfg) (hp : ReparseParams c c') (hq : PrintParams c) (s : Str) (i : URLInfo) (n : Str)
    (hparse : parse c s = .ok i) (hnet : (netScheme? i.scheme).isSome = true) (hurl : i.url = .ok n) :
    ∀ x ∈ n, 0x20 < x ∧ x < 0x80 :=
  (norm_main c c' hp s i n hparse hnet hurl (host_printable c hq s i hparse hnet)).2

/-- the whole-URL property: for all parameters satisfying the two hypotheses and every string the parser accepts with a
network scheme, the normal form is accepted again, is its own normal form, and gives back scheme, host name, port,
path and query -/
def C10_full : Prop :=
  ∀ (c c' : Cfg), ReparseParams c c' → PrintParams c →
    ∀ (s : Str) (i : URLInfo) (n : Str), parse c s = .ok i → (netScheme? i.scheme).isSome = true →
      i.url = .ok n →
      ∃ j, parse c' n = .ok j ∧ j.url = .ok n ∧
        (j.scheme, j.hostname, j.port, j.path, j.query) = (i.scheme, i.hostname, i.port, i.path, i.query)

/-- **C10, composed.**  `C10_full` holds. -/
theorem C10_full_holds : C10_full := fun c c' hp hq s i n hparse hnet hurl =>
  (norm_main c c' hp s i n hparse hnet hurl (host_printable c hq s i hparse hnet)).1

-- `http://[u:]p@h/` is written `http://%5Bu:%5Dp@h/`
example : (parse cfgT [104, 116, 116, 112, 58, 47, 47, 91, 117, 58, 93, 112, 64, 104, 47]).bind URLInfo.url
    = .ok [104, 116, 116, 112, 58, 47, 47, 37, 53, 66, 117, 58, 37, 53, 68, 112, 64, 104, 47] := by decide +kernel
-- `HTTP://U:P@0X7f000001:80/a/./%aF?q x` ↦ `http://U:P@127.0.0.1/a/%AF?q+x` ↦ itself
example : (parse cfgT [72, 84, 84, 80, 58, 47, 47, 85, 58, 80, 64, 48, 88, 55, 102, 48, 48, 48, 48, 48, 49, 58, 56, 48, 47, 97, 47, 46, 47, 37, 97, 70, 63, 113, 32, 120]).bind URLInfo.url
    = .ok [104, 116, 116, 112, 58, 47, 47, 85, 58, 80, 64, 49, 50, 55, 46, 48, 46, 48, 46, 49, 47, 97, 47, 37, 65, 70, 63, 113, 43, 120] := by decide +kernel
example : (parse cfgT [104, 116, 116, 112, 58, 47, 47, 85, 58, 80, 64, 49, 50, 55, 46, 48, 46, 48, 46, 49, 47, 97, 47, 37, 65, 70, 63, 113, 43, 120]).bind URLInfo.url
    = .ok [104, 116, 116, 112, 58, 47, 47, 85, 58, 80, 64, 49, 50, 55, 46, 48, 46, 48, 46, 49, 47, 97, 47, 37, 65, 70, 63, 113, 43, 120] := by decide +kernel

/-- a latin-1 configuration, `unquote` given on the two texts the witness needs (`%E9` → é, `%C3%A9` → Ã©) -/
def cfgLatin1 : Cfg :=
  { defaultScheme := some sHttp, encode := latin1Enc, lowerNA := id,
    idnaNA := fun _ => .error .UnicodeError, ipv6 := fun _ => .error .AddressValueError,
    unquote := fun x =>
      if x = [37, 69, 57] then [0xE9]
      else if x = [37, 67, 51, 37, 65, 57] then [0xC3, 0xA9]
      else x }

/-- **Known finding (KNOWN_FINDINGS.txt, kind not-idempotent-same-encoding).**  `unquote_user` is a real restriction:
with the *same* latin-1 configuration on both sides the user info is not a fixed point — `http://%E9@h/` →
`http://%C3%A9@h/` → `http://%C3%83%C2%A9@h/`.  (`norm_idem` is about re-parsing with a configuration whose `unquote`
inverts the UTF-8 percent-encoding, i.e. the default.) -/
theorem norm_idem_same_encoding_counterexample :
    (parse cfgLatin1 [104, 116, 116, 112, 58, 47, 47, 37, 69, 57, 64, 104, 47]).bind URLInfo.url
      = .ok [104, 116, 116, 112, 58, 47, 47, 37, 67, 51, 37, 65, 57, 64, 104, 47] ∧
    (parse cfgLatin1 [104, 116, 116, 112, 58, 47, 47, 37, 67, 51, 37, 65, 57, 64, 104, 47]).bind URLInfo.url
      = .ok [104, 116, 116, 112, 58, 47, 47, 37, 67, 51, 37, 56, 51, 37, 67, 50, 37, 65, 57, 64, 104, 47] := by
  decide +kernel

end Wpull.Url
