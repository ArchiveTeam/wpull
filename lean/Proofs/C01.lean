/-
C01 — Recursive crawl fetches every in-scope reachable URL exactly once, and
ends with every discovered URL in a final state.

Property theorems over the transition system `Wpull.Crawl`.  They hold for every
number of workers (`conc`), every schedule (any sequence of enabled events = any
order in which the server answers and the workers run) and every site/filter
instantiation `Cfg.visit`.
-/
import Proofs.Lemmas.CrawlAcct
namespace Wpull.Crawl

variable {c : Cfg} {conc : Nat} {starts : List Url} {s : St}

/-- **C01 (final states)** When the crawl has nothing left to do (no item in
flight, no to-do or error row), every URL it ever discovered is recorded as
done or skipped.  Holds also for runs that were killed and restarted (`k = true`). -/
theorem all_final (hw : c.WF) {k : Bool} (h : Reach c conc starts k s) (hq : quiescent s = true) :
    ∀ r ∈ s.table, r.status = .done ∨ r.status = .skipped := by
  obtain ⟨hd, he, hn⟩ := quiescent_iff.mp hq
  intro r hr
  have h1 := nextRow_none hn r hr
  have h2 : r.status ≠ .inProgress := fun hs => by
    have := (reach_inv hw h).1.progress hd r hr hs
    rw [he] at this; cases this
  match hs : r.status with
  | .done => exact .inl rfl
  | .skipped => exact .inr rfl
  | .todo => exact absurd hs h1.1
  | .error => exact absurd hs h1.2
  | .inProgress => exact absurd hs h2

/-- **C01 (at most once)** In a crash-free run without failing fetches no URL is
handed to a worker twice. -/
theorem visit_once (hn : c.NoFail) (h : Reach c conc starts false s) : (urls s.outs).Nodup :=
  (reach_outs_nodup hn h).1

theorem log_perm_outs (hw : c.WF) (h : Reach c conc starts false s) (hq : quiescent s = true) :
    s.log.Perm (s.outs.flatMap fun o => (c.visit o).requests) := by
  have := reach_log hw h
  rwa [(quiescent_iff.mp hq).2.1, List.flatMap_nil, List.append_nil] at this

/-- **C01 (request accounting)** At the end of a crash-free run the number of
requests seen for any URL `v` is exactly the number the handed-out visits
prescribe: nothing is requested outside a visit and no visit is replayed. -/
theorem request_accounting (hw : c.WF) (h : Reach c conc starts false s) (hq : quiescent s = true) (v : Url) :
    s.log.count v = sumOver (fun o => (c.visit o).requests.count v) s.outs := by
  rw [(log_perm_outs hw h hq).count_eq, List.count_flatMap]; rfl

/-- A scope whose verdict and offered links may depend on the whole *record* of a row - its URL, its
depth and its requisite depth - as `LevelFilter`, `RecursiveFilter` and `ParentFilter` do; no redirects. -/
structure Scoped (c : Cfg) (acc : Row → Bool) (links : Row → List Child) : Prop where
  visit_acc : ∀ r, acc r = true → c.visit r = ⟨[r.url], .done, links r⟩
  visit_rej : ∀ r, acc r = false → c.visit r = ⟨[], .skipped, []⟩
  key_acc : ∀ a b, keyEq a b → acc a = acc b
  key_links : ∀ a b, keyEq a b → links a = links b

theorem Scoped.noFail {acc : Row → Bool} {links : Row → List Child} (hs : Scoped c acc links) : c.NoFail := by
  intro r
  cases h : acc r
  · right; rw [hs.visit_rej r h]
  · left; rw [hs.visit_acc r h]

theorem Scoped.requests_outs {acc : Row → Bool} {links : Row → List Child} (hs : Scoped c acc links)
    (outs : List Row) : (outs.flatMap fun o => (c.visit o).requests) = urls (outs.filter acc) := by
  induction outs with
  | nil => rfl
  | cons o t ih =>
    cases h : acc o
    · simp [hs.visit_rej o h, h, ih]
    · simp [hs.visit_acc o h, h, ih]

structure RecordsClosed (starts : List Url) (acc : Row → Bool) (links : Row → List Child) (s : St) : Prop where
  final : ∀ r ∈ s.table, r.status = .done ∨ r.status = .skipped
  startsIn : ∀ u ∈ starts, u ∈ urls s.table
  linksIn : ∀ x ∈ s.table, acc x = true → ∀ k ∈ links x, k.url ∈ urls s.table
  prov : ∀ x ∈ s.table, (x.url ∈ starts ∧ x.level = 0 ∧ x.inline = none) ∨
    ∃ p ∈ s.table, acc p = true ∧ ∃ k ∈ links p, keyEq x (childRow p k)
  logged : ∀ x ∈ s.table, acc x = true → x.url ∈ s.log

theorem records_closed {acc : Row → Bool} {links : Row → List Child} (hs : Scoped c acc links)
    {crashOk : Bool} (h : Reach c conc starts crashOk s) (hq : quiescent s = true) :
    RecordsClosed starts acc links s := by
  have hw := hs.noFail.wf
  have ⟨ha, hb, hc⟩ := reach_inv hw h
  have hfin := all_final hw h hq
  have hkids : ∀ x ∈ s.table, acc x = true → (∀ k ∈ links x, k.url ∈ urls s.table) ∧ x.url ∈ s.log := by
    intro x hx hacc
    obtain ⟨o, ho, hko⟩ := out_of_final_row hw h hx (hfin x hx)
    have := hb.closed ha ho hx hko.1 ((hfin x hx).imp_right .inl)
    rw [hs.visit_acc o (hs.key_acc x o hko ▸ hacc), ← hs.key_links x o hko, ← hko.1] at this
    exact ⟨this.1, this.2 _ (List.mem_singleton.mpr rfl)⟩
  refine ⟨hfin, hb.startsIn, fun x hx ha => (hkids x hx ha).1, fun x hx => ?_,
    fun x hx ha => (hkids x hx ha).2⟩
  refine (hc.prov x hx).imp_right fun ⟨o, ho, k, hk, hkx⟩ => ?_
  obtain ⟨p, hp, hkp⟩ := hc.outKey o ho
  cases hacco : acc o
  · rw [hs.visit_rej o hacco] at hk; cases hk
  · rw [hs.visit_acc o hacco] at hk
    exact ⟨p, hp, (hs.key_acc p o hkp).trans hacco, k, hs.key_links p o hkp ▸ hk,
      hkx.trans (keyEq_childRow hkp k).symm⟩

/-- **C01 (what the crawl computes when the scope depends on depth / requisite-ness)**  For a
record-dependent scope, at the end of a crash-free run the table is closed under the links of its
accepted *stored* records: every row is final and is a start URL or carries the child record of a link
of an accepted stored row, and a URL is requested once if its stored record is in scope and never otherwise.
This is the sense in which "the first record wins": the stored record of a URL - not its best one -
decides (findings `missing-url/depth-race` and `missing-url/requisite-shadowed`).  For a scope that does
not look at the record this gives `complete_exactly_once`. -/
theorem closure_of_stored_records {acc : Row → Bool} {links : Row → List Child} (hs : Scoped c acc links)
    (h : Reach c conc starts false s) (hq : quiescent s = true) :
    (∀ r ∈ s.table, r.status = .done ∨ r.status = .skipped) ∧
    (∀ u ∈ starts, u ∈ urls s.table) ∧
    (∀ x ∈ s.table, acc x = true → ∀ k ∈ links x, k.url ∈ urls s.table) ∧
    (∀ x ∈ s.table, (x.url ∈ starts ∧ x.level = 0 ∧ x.inline = none) ∨
        ∃ p ∈ s.table, acc p = true ∧ ∃ k ∈ links p, keyEq x (childRow p k)) ∧
    (∀ x ∈ s.table, s.log.count x.url = if acc x = true then 1 else 0) ∧
    (∀ u, u ∉ urls s.table → s.log.count u = 0) := by
  have hw := hs.noFail.wf
  have hc := records_closed hs h hq
  have hfin := hc.final
  have hcount (u : Url) : s.log.count u = if u ∈ urls (s.outs.filter acc) then 1 else 0 := by
    rw [(log_perm_outs hw h hq).count_eq, hs.requests_outs]
    exact ((visit_once hs.noFail h).sublist (List.filter_sublist.map _)).count
  refine ⟨hfin, hc.startsIn, hc.linksIn, hc.prov, fun x hx => ?_, fun u hu => ?_⟩
  · have : x.url ∈ urls (s.outs.filter acc) ↔ acc x = true := by
      constructor
      · intro hm
        obtain ⟨o, ho, e⟩ := mem_urls.mp hm
        obtain ⟨ho, hao⟩ := List.mem_filter.mp ho
        rw [hs.key_acc x o (keyEq_of_out hw h ho hx e)]; exact hao
      · intro hacc
        obtain ⟨o, ho, hko⟩ := out_of_final_row hw h hx (hfin x hx)
        exact mem_urls.mpr ⟨o, List.mem_filter.mpr ⟨ho, hs.key_acc x o hko ▸ hacc⟩, hko.1.symm⟩
    simp only [hcount, this]
  · rw [hcount, if_neg]
    intro hm
    obtain ⟨o, ho, e⟩ := mem_urls.mp hm
    exact hu (e ▸ ((reach_inv hw h).2.1.outsIn o (List.mem_filter.mp ho).1).1)

/-- A level-free scope: verdict and offered links depend on the URL alone; no redirects. -/
structure Simple (c : Cfg) (acc : Url → Bool) (links : Url → List Child) : Prop where
  visit_acc : ∀ r, acc r.url = true → c.visit r = ⟨[r.url], .done, links r.url⟩
  visit_rej : ∀ r, acc r.url = false → c.visit r = ⟨[], .skipped, []⟩

/-- URLs the crawl can discover: the start URLs and the links of accepted discovered pages -/
inductive Disc (starts : List Url) (acc : Url → Bool) (links : Url → List Child) : Url → Prop
  | start {u : Url} : u ∈ starts → Disc starts acc links u
  | link {p : Url} {k : Child} : Disc starts acc links p → acc p = true → k ∈ links p →
      Disc starts acc links k.url

theorem Simple.scoped {acc : Url → Bool} {links : Url → List Child} (hs : Simple c acc links) :
    Scoped c (fun r => acc r.url) (fun r => links r.url) :=
  ⟨hs.visit_acc, hs.visit_rej, fun _ _ h => by rw [h.1], fun _ _ h => by rw [h.1]⟩

theorem table_iff_disc {acc : Url → Bool} {links : Url → List Child} (hs : Simple c acc links)
    {crashOk : Bool} (h : Reach c conc starts crashOk s) (hq : quiescent s = true) (u : Url) :
    u ∈ urls s.table ↔ Disc starts acc links u := by
  have hc := records_closed hs.scoped h hq
  constructor
  · refine table_closed hs.scoped.noFail.wf (fun u => .start) (fun r hr k hk => ?_) h u
    cases hacc : acc r.url
    · rw [hs.visit_rej r hacc] at hk; cases hk
    · rw [hs.visit_acc r hacc] at hk; exact .link hr hacc hk
  · intro hd
    induction hd with
    | start hu => exact hc.startsIn _ hu
    | link _ hacc hk ih =>
      obtain ⟨x, hx, rfl⟩ := mem_urls.mp ih
      exact hc.linksIn x hx hacc _ hk

/-- **C01 (complete, exactly once, schedule independent)** For a level-free
scope, at the end of any crash-free run the table holds exactly the discoverable
URLs, every one of them in a final state, and each accepted discoverable URL has
been requested exactly once, every other URL never. -/
theorem complete_exactly_once {acc : Url → Bool} {links : Url → List Child} (hs : Simple c acc links)
    (h : Reach c conc starts false s) (hq : quiescent s = true) :
    (∀ u, u ∈ urls s.table ↔ Disc starts acc links u) ∧
    (∀ r ∈ s.table, r.status = .done ∨ r.status = .skipped) ∧
    (∀ u, (Disc starts acc links u ∧ acc u = true → s.log.count u = 1) ∧
          (¬ (Disc starts acc links u ∧ acc u = true) → s.log.count u = 0)) := by
  have hiff := table_iff_disc hs h hq
  obtain ⟨hfin, _, _, _, hin, hout⟩ := closure_of_stored_records hs.scoped h hq
  refine ⟨hiff, hfin, fun u => ?_⟩
  rw [← hiff]
  by_cases hu : u ∈ urls s.table
  · obtain ⟨x, hx, rfl⟩ := mem_urls.mp hu
    rw [hin x hx]
    cases acc x.url <;> simp [hu]
  · simp [hout u hu, hu]

/-- **C01 (termination)** A failure-free crawl of a finite site always ends: if every start URL and
every offered link lies in a finite list `U` (the site's URLs) and a visit sends at most `R` requests,
then every crash-free run has at most `(R + 3) · |U|` steps.  With failing visits there is no bound
(see `Cfg.NoFail`). -/
theorem terminates (hn : c.NoFail) (R : Nat) (hR : ∀ r, (c.visit r).requests.length ≤ R)
    (U : List Url) (hS : ∀ u ∈ starts, u ∈ U) (hK : ∀ r k, k ∈ (c.visit r).children → k.url ∈ U)
    (es : List Ev) (hes : ∀ e ∈ es, e ≠ .crash ∧ e ≠ .restart)
    (hrun : run c conc starts (init starts) es = some s) : es.length ≤ (R + 3) * U.length := by
  have hw := hn.wf
  obtain ⟨hreach, h1⟩ := run_crashfree hw es hes .init hrun
  have h2 := (reach_log hw hreach).length_eq
  have h3 := sumOver_le (fun o => (c.visit o).requests.length) R s.outs fun o _ => hR o
  have h4 : (urls s.outs).length ≤ U.length :=
    (visit_once hn hreach).length_le_of_subset fun u hu => by
      obtain ⟨o, ho, rfl⟩ := mem_urls.mp hu
      exact table_closed hw hS (fun r _ => hK r) hreach _ ((reach_inv hw hreach).2.1.outsIn o ho).1
  simp only [paid, owed, init, List.length_nil, sumOver_nil] at h1
  simp only [List.length_append, List.length_flatMap] at h2
  simp only [sumOver] at h3
  simp only [urls, List.length_map] at h4
  calc es.length ≤ (R + 3) * s.outs.length := by rw [Nat.add_mul]; omega
    _ ≤ (R + 3) * U.length := Nat.mul_le_mul_left _ h4

/-! ## Non-vacuity: a concrete diamond site with a cycle, up to two items in flight -/

def demoLinks : Url → List Child
  | 0 => [⟨1, false⟩, ⟨2, false⟩]
  | 1 => [⟨3, false⟩, ⟨0, false⟩, ⟨4, false⟩]
  | 2 => [⟨3, true⟩]
  | _ => []
def demoAcc (u : Url) : Bool := u != 4
def demoCfg : Cfg := { visit := fun r => if demoAcc r.url then ⟨[r.url], .done, demoLinks r.url⟩ else ⟨[], .skipped, []⟩ }

example : Simple demoCfg demoAcc demoLinks :=
  ⟨fun r h => by simp [demoCfg, h], fun r h => by simp [demoCfg, h]⟩

example : (run demoCfg 4 [0] (init [0])
    [.checkOut, .request 0, .flush 0, .checkIn 0, .checkOut, .checkOut, .request 2, .request 1,
     .flush 2, .flush 1, .checkIn 1, .checkOut, .checkIn 2, .request 3, .flush 3, .checkOut,
     .flush 4, .checkIn 4, .checkIn 3]).map (fun s => (quiescent s, s.log)) = some (true, [0, 2, 1, 3]) := by
  decide +kernel

/-! ## Where the unrestricted statement fails (known findings, replayed on the real crawler)

The full property — exactly once for *every* scope — is not a theorem of the
model, because it is false of the code.  Three witnesses: the first (a URL requested twice) refutes
`C01_exactly_once_full`; in the other two an in-scope URL is never requested. -/

def C01_exactly_once_full : Prop :=
  ∀ (c : Cfg) (conc : Nat) (starts : List Url) (s : St), c.NoFail → Reach c conc starts false s →
    quiescent s = true → ∀ v, s.log.count v ≤ 1

/-- page 0 links to 1 and 2; 1 redirects to 2 (the session follows redirects itself and never
consults the table) -/
def redirCfg : Cfg := { visit := fun r =>
  match r.url with
  | 0 => ⟨[0], .done, [⟨1, false⟩, ⟨2, false⟩]⟩
  | 1 => ⟨[1, 2], .done, []⟩
  | _ => ⟨[r.url], .done, []⟩ }

/-- **finding `dup-request/redirect-target`**: a redirect target that is also linked is requested twice. -/
theorem redirect_target_counterexample : ¬ C01_exactly_once_full := by
  intro hfull
  let es : List Ev := [.checkOut, .request 0, .flush 0, .checkIn 0, .checkOut, .request 1, .request 1,
    .flush 1, .checkIn 1, .checkOut, .request 2, .flush 2, .checkIn 2]
  obtain ⟨s, hs, hp⟩ := (Option.any_eq_true _ _).mp
    (by decide +kernel :
      (run redirCfg 3 [0] (init [0]) es).any (fun s => quiescent s && s.log.count 2 == 2) = true)
  simp only [Bool.and_eq_true, beq_iff_eq] at hp
  have hnf : redirCfg.NoFail := by
    intro r; simp only [redirCfg]; split <;> simp
  have := hfull redirCfg 3 [0] s hnf (run_crashfree hnf.wf es (by decide) .init hs).1 hp.1 2
  omega

/-- depth limit 3: links that would be stored deeper are not offered, as the scrape-time filter does -/
def depthCfg : Cfg := { visit := fun r =>
  let kids : List Child := match r.url with
    | 0 => [⟨1, false⟩, ⟨2, false⟩]
    | 1 => [⟨4, false⟩]
    | 2 => [⟨3, false⟩]
    | 3 => [⟨4, false⟩]
    | 4 => [⟨5, false⟩]
    | _ => []
  ⟨[r.url], .done, if r.level + 1 ≤ 3 then kids else []⟩ }

/-- **finding `missing-url/depth-race`**: with a depth limit and two workers the set of requested
URLs depends on the schedule.  URL 4 is at depth 2 through page 1 and at depth 3 through page 3; it is
stored with the depth of whichever parent finishes first (a later add never lowers it), and its link
to URL 5 (true depth 3, in scope) is dropped when it was stored at depth 3. -/
theorem depth_race_counterexample :
    ∃ es₁ es₂ s₁ s₂, run depthCfg 4 [0] (init [0]) es₁ = some s₁ ∧ run depthCfg 4 [0] (init [0]) es₂ = some s₂ ∧
      quiescent s₁ = true ∧ quiescent s₂ = true ∧ 5 ∈ s₁.log ∧ 5 ∉ s₂.log := by
  let pre : List Ev := [.checkOut, .request 0, .flush 0, .checkIn 0, .checkOut, .checkOut, .request 1, .request 2,
    .flush 2, .checkIn 2, .checkOut, .request 3]
  let es₁ := pre ++ [.flush 1, .checkIn 1, .flush 3, .checkIn 3, .checkOut, .request 4, .flush 4, .checkIn 4,
    .checkOut, .request 5, .flush 5, .checkIn 5]
  let es₂ := pre ++ [.flush 3, .checkIn 3, .flush 1, .checkIn 1, .checkOut, .request 4, .flush 4, .checkIn 4]
  obtain ⟨s₁, hs₁, h₁⟩ := (Option.any_eq_true _ _).mp
    (by decide +kernel :
      (run depthCfg 4 [0] (init [0]) es₁).any (fun s => quiescent s && decide (5 ∈ s.log)) = true)
  obtain ⟨s₂, hs₂, h₂⟩ := (Option.any_eq_true _ _).mp
    (by decide +kernel :
      (run depthCfg 4 [0] (init [0]) es₂).any (fun s => quiescent s && decide (5 ∉ s.log)) = true)
  simp only [Bool.and_eq_true, decide_eq_true_eq] at h₁ h₂
  exact ⟨es₁, es₂, s₁, s₂, hs₁, hs₂, h₁.1, h₂.1, h₁.2, h₂.2⟩

/-- `-r -p --no-parent`: URL 2 lies outside the start directory, so it is in scope only as a page requisite -/
def shadowCfg : Cfg := { visit := fun r =>
  match r.url with
  | 0 => ⟨[0], .done, [⟨2, false⟩, ⟨1, false⟩]⟩
  | 1 => ⟨[1], .done, [⟨2, true⟩]⟩
  | 2 => if r.inline.isSome then ⟨[2], .done, []⟩ else ⟨[], .skipped, []⟩
  | _ => ⟨[], .skipped, []⟩ }

/-- **finding `missing-url/requisite-shadowed`**: one item in flight at a time, no race.  URL 2 is a page requisite of
the fetched page 1 and is in scope as such (`visit` of its requisite row requests it), but the table keeps
the record of its first sighting - an out-of-scope ordinary link on page 0 - so it is never requested. -/
theorem requisite_shadowed_counterexample :
    ∃ es s, run shadowCfg 3 [0] (init [0]) es = some s ∧ quiescent s = true ∧ 1 ∈ s.log ∧ 2 ∉ s.log ∧
      (⟨2, true⟩ : Child) ∈ (shadowCfg.visit (startRow 1)).children ∧
      (shadowCfg.visit (childRow (startRow 1) ⟨2, true⟩)).requests = [2] := by
  let es : List Ev := [.checkOut, .request 0, .flush 0, .checkIn 0, .checkOut, .flush 2, .checkIn 2,
    .checkOut, .request 1, .flush 1, .checkIn 1]
  obtain ⟨s, hs, h⟩ := (Option.any_eq_true _ _).mp
    (by decide +kernel : (run shadowCfg 3 [0] (init [0]) es).any
      (fun s => quiescent s && decide (1 ∈ s.log) && decide (2 ∉ s.log)) = true)
  simp only [Bool.and_eq_true, decide_eq_true_eq] at h
  exact ⟨es, s, hs, h.1.1, h.1.2, h.2, by decide, by decide⟩

def shadowAcc (r : Row) : Bool := r.url == 0 || r.url == 1 || (r.url == 2 && r.inline.isSome)
def shadowLinks (r : Row) : List Child :=
  if r.url == 0 then [⟨2, false⟩, ⟨1, false⟩] else if r.url == 1 then [⟨2, true⟩] else []

/-- non-vacuity of `closure_of_stored_records`: the scope of the requisite-shadowed finding is a `Scoped` one -/
theorem shadow_scoped : Scoped shadowCfg shadowAcc shadowLinks := by
  have hv : ∀ r, shadowCfg.visit r =
      if shadowAcc r then ⟨[r.url], .done, shadowLinks r⟩ else ⟨[], .skipped, []⟩ := by
    rintro ⟨u, st, l, i, t⟩
    match u with
    | 0 | 1 => rfl
    | 2 => cases i <;> rfl
    | n + 3 => rfl
  exact ⟨fun r h => by rw [hv, if_pos h], fun r h => by rw [hv, h]; rfl,
    fun a b h => by simp only [shadowAcc, h.1, h.2.2], fun a b h => by simp only [shadowLinks, h.1]⟩

end Wpull.Crawl
