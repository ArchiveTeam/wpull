/-
C06 — A failed or interrupted WARC append never damages earlier records.
Over the model `Wpull.WarcWrite`: what each phase of `write_record` does to the two files; then `Outcome`, what a
run leaves behind by the way it ended, for every schedule and every class of exception (`writeRecordE_outcome`)
and for an append inside a directory (`appendTo_outcome`).  The property theorems are read off from these; for a
killed process `(writeRecord fs s).fs` is the state frozen at the kill.
-/
import Wpull.WarcWrite
import Proofs.Lemmas.Lit
import Proofs.Lemmas.Py
namespace Wpull.WarcWrite

/-- failed with an exception; a kill (`.die`) is not a failure: the `died` clauses cover it -/
def Out.isFail : Out → Bool
  | .fail _ => true
  | _ => false

def Complete (s : Sched) : Prop := (∀ p ∈ s.awrites, p.2 = Out.ok) ∧ s.srcFail = false

/-- the bytes the buffering / gzip layer emits for the record -/
def full (s : Sched) : Bytes := (s.awrites.map Prod.fst).flatten

/-- what a recovery procedure can work with: the old archive, or the old archive plus the complete record, or a
journal that names the old length with the old bytes in front -/
def Recoverable (a₀ : Bytes) (s : Sched) (fs : FS) : Prop :=
  fs.bytes = a₀ ∨ (Complete s ∧ fs.bytes = a₀ ++ full s) ∨
  (fs.journal = some (journalText a₀.length) ∧ fs.bytes.take a₀.length = a₀)

theorem FS.bytes_congr {a b : FS} (h : a.archive = b.archive) : a.bytes = b.bytes :=
  congrArg (Option.getD · []) h

theorem writes_prefix (a : Bytes) (ws : List (Bytes × Out)) : ∃ x, (writes a ws).1 = a ++ x := by
  induction ws generalizing a with
  | nil => exact ⟨[], by simp [writes]⟩
  | cons p r ih =>
    obtain ⟨d, o⟩ := p
    cases o with
    | ok => obtain ⟨x, hx⟩ := ih (a ++ d); exact ⟨d ++ x, by simp [writes, hx]⟩
    | fail k => obtain ⟨x, hx⟩ := ih (a ++ d.take k); exact ⟨d.take k ++ x, by simp [writes, hx]⟩
    | die k => exact ⟨d.take k, by simp [writes]⟩

theorem writes_clean (a : Bytes) (ws : List (Bytes × Out))
    (h1 : (writes a ws).2.1 = false) (h2 : (writes a ws).2.2 = false) :
    (∀ p ∈ ws, p.2 = Out.ok) ∧ (writes a ws).1 = a ++ (ws.map Prod.fst).flatten := by
  induction ws generalizing a with
  | nil => simp [writes]
  | cons p r ih =>
    obtain ⟨d, o⟩ := p
    cases o with
    | ok =>
      simp only [writes] at h1 h2 ⊢
      obtain ⟨h, e⟩ := ih (a ++ d) h1 h2
      exact ⟨by simpa using h, by simp [e]⟩
    | fail k => simp [writes] at h1
    | die k => simp [writes] at h2

theorem closeStep_fs (fs : FS) (tr : Trace) (p : Prim) (o : Out) (b : Bool) :
    (closeStep fs tr p o b).fs = fs := by
  cases o <;> rfl

theorem closeStep_tr (fs : FS) (tr : Trace) (p : Prim) (o : Out) (b : Bool) :
    (closeStep fs tr p o b).tr = tr ++ [(p, o.tag)] := by
  cases o <;> rfl

theorem closeStep_none {fs : FS} {tr : Trace} {p : Prim} {o : Out} {b : Bool} :
    (closeStep fs tr p o b).st = none ↔ o = .ok ∧ b = false := by
  cases o <;> simp [closeStep]

theorem closeStep_died {fs : FS} {tr : Trace} {p : Prim} {o : Out} {b : Bool}
    (h : (closeStep fs tr p o b).st = some .died) : ∃ k, o = .die k := by
  cases o with
  | ok => cases b <;> simp [closeStep] at h
  | fail k => simp [closeStep] at h
  | die k => exact ⟨k, rfl⟩

theorem closeStep_not_done (fs : FS) (tr : Trace) (p : Prim) (o : Out) (b : Bool) :
    (closeStep fs tr p o b).st ≠ some .done := by
  cases o <;> simp [closeStep]

theorem journalCreate_jopen_notok {fs : FS} {n : Nat} {s : Sched} (h : s.jopen ≠ .ok) :
    (journalCreate fs n s).fs = fs := by
  unfold journalCreate
  split <;> simp_all

theorem journalCreate_spec (fs : FS) (n : Nat) (s : Sched) :
    let j := journalCreate fs n s
    j.fs.archive = fs.archive ∧ j.st ≠ some .done ∧ (j.st = none → j.fs.journal = some (journalText n)) := by
  unfold journalCreate
  split
  · simp
  · simp
  · split
    · simp [closeStep_fs, closeStep_not_done]
    · simp
    · split <;> simp [closeStep_fs, closeStep_not_done, closeStep_none]

theorem journalPhaseE_spec (e : IOErr) (fs : FS) (n : Nat) (s : Sched) :
    let j := journalPhaseE e fs n s
    j.fs.archive = fs.archive ∧ j.st ≠ some .done ∧ (j.st = none → j.fs.journal = some (journalText n)) ∧
    (j.st = some .raised → e.isOSError = true → s.junlink.isFail = false → j.fs.journal = none) := by
  obtain ⟨ha, hd, hn⟩ := journalCreate_spec fs n s
  unfold journalPhaseE journalPhase
  cases e.isOSError with
  | false => exact ⟨ha, hd, hn, fun _ h => nomatch h⟩
  | true =>
    simp only [if_true]
    split
    · -- the creation raised: the handler removes the journal if there is one
      split
      · rename_i hj; exact ⟨ha, hd, hn, fun _ _ _ => hj⟩
      · split
        · exact ⟨ha, nofun, nofun, fun _ _ _ => rfl⟩
        · rename_i hu; exact ⟨ha, nofun, nofun, fun _ _ h => by simp [hu, Out.isFail] at h⟩
        · exact ⟨ha, nofun, nofun, nofun⟩
    · rename_i hr; exact ⟨ha, hd, hn, fun h => absurd h hr⟩

theorem appendPhase_spec (fs : FS) (s : Sched) :
    let a := appendPhase fs s
    a.fs.journal = fs.journal ∧ a.st ≠ some .done ∧ (∃ x, a.fs.bytes = fs.bytes ++ x) ∧
    (a.st = none → Complete s ∧ a.fs.bytes = fs.bytes ++ full s) := by
  unfold appendPhase
  split
  iterate 2 exact ⟨rfl, nofun, ⟨[], by simp⟩, nofun⟩
  · obtain ⟨x, hx⟩ := writes_prefix fs.bytes s.awrites
    simp only
    split
    · exact ⟨rfl, nofun, ⟨x, hx⟩, nofun⟩
    · rename_i hd
      refine ⟨by rw [closeStep_fs], closeStep_not_done _ _ _ _ _, ⟨x, by rw [closeStep_fs]; exact hx⟩, fun h => ?_⟩
      rw [closeStep_none, Bool.or_eq_false_iff] at h
      obtain ⟨hw, he⟩ := writes_clean fs.bytes s.awrites h.2.1 (by simpa using hd)
      exact ⟨⟨hw, h.2.2⟩, by rw [closeStep_fs]; exact he⟩

theorem truncateTo_prefix (a x : Bytes) : truncateTo (a ++ x) a.length = a := by
  simp [truncateTo]

theorem rollbackPhase_spec (fs : FS) (a₀ x : Bytes) (s : Sched) (h : fs.bytes = a₀ ++ x) :
    (rollbackPhase fs a₀.length s).fs.journal = fs.journal ∧
    ∃ y, (rollbackPhase fs a₀.length s).fs.bytes = a₀ ++ y ∧
      ((rollbackPhase fs a₀.length s).st ≠ some .died → s.ropen.isFail = false → s.rtrunc.isFail = false →
        y = []) := by
  unfold rollbackPhase
  cases s.ropen with
  | fail k => exact ⟨rfl, x, h, fun _ ho => nomatch ho⟩
  | die k => exact ⟨rfl, x, h, fun hd => absurd rfl hd⟩
  | ok =>
    cases ha : fs.archive with
    | none =>
      have : a₀ ++ x = [] := by simpa [FS.bytes, ha] using h.symm
      exact ⟨rfl, x, h, fun _ _ _ => (List.append_eq_nil_iff.mp this).2⟩
    | some a =>
      have hb : a = a₀ ++ x := by simpa [FS.bytes, ha] using h
      cases s.rtrunc with
      | die k => exact ⟨rfl, x, h, fun hd => absurd rfl hd⟩
      | fail k => rw [closeStep_fs]; exact ⟨rfl, x, h, fun _ _ ht => nomatch ht⟩
      | ok => rw [closeStep_fs]; exact ⟨rfl, [], by simp [FS.bytes, hb, truncateTo_prefix], fun _ _ _ => rfl⟩

theorem unlinkStep_cases (fs : FS) (tr : Trace) (s : Sched) (st : Status) :
    (unlinkStep fs tr s st).st = some st ∧ (unlinkStep fs tr s st).fs = { fs with journal := none } ∨
    (unlinkStep fs tr s st).st = some .died ∧ (unlinkStep fs tr s st).fs = fs ∨
    (unlinkStep fs tr s st).st = some .raised ∧ (unlinkStep fs tr s st).fs = fs ∧
      (fs.journal = none ∨ s.unlink.isFail = true) := by
  unfold unlinkStep
  split
  · exact .inr (.inr ⟨rfl, rfl, .inl ‹_›⟩)
  · split
    · exact .inl ⟨rfl, rfl⟩
    · exact .inr (.inr ⟨rfl, rfl, .inr (by simp [Out.isFail, *])⟩)
    · exact .inr (.inl ⟨rfl, rfl⟩)

theorem unlinkStep_journal_cases (fs : FS) (tr : Trace) (s : Sched) (st : Status) :
    (unlinkStep fs tr s st).fs.journal = none ∨ (unlinkStep fs tr s st).fs.journal = fs.journal := by
  rcases unlinkStep_cases fs tr s st with ⟨_, h⟩ | ⟨_, h⟩ | ⟨_, h, _⟩ <;> simp [h]

theorem decimal_eq (n : Nat) : decimal n = natDec n := by
  have : ∀ f n, n < f → ((digitsLE f n).map (· + 48)).reverse = natDec n := by
    intro f
    induction f with
    | zero => intro n h; omega
    | succ f ih =>
      intro n h
      rw [natDec_eq, digitsLE]
      split
      · simp [Nat.add_comm]
      · simp [ih (n / 10) (by omega), Nat.add_comm]
  exact this _ n (Nat.lt_succ_self n)

theorem parseDecimal_decimal (n : Nat) : parseDecimal (decimal n) = n :=
  decimal_eq n ▸ natDec_value n

/-- **The journal names the pre-append length**: reading the journal text back gives the offset. -/
theorem journal_names_length (n : Nat) : journalOffset? (journalText n) = some n := by
  obtain ⟨hne, hdig⟩ := natDec_digits n
  rw [← decimal_eq] at hne hdig
  unfold journalOffset? journalText
  simp only [List.append_assoc, startsWith_append, List.drop_left']
  have htw : (decimal n ++ [10]).takeWhile isAsciiDigit = decimal n := by
    rw [List.takeWhile_append_of_pos fun c hc => by simpa [isAsciiDigit] using hdig c hc]; simp [isAsciiDigit]
  rw [htw]
  simp [hne, parseDecimal_decimal]

theorem Ph.st_eq {p : Ph} (h : p.st ≠ none) : p.st = some p.status :=
  (Option.getD_of_ne_none h _).symm

/-- What `write_record`, started on `fs` under the schedule `s` with errors of class `e`, leaves behind:
`fs'` is the file system afterwards and `st` the way it ended. -/
structure Outcome (e : IOErr) (s : Sched) (fs fs' : FS) (st : Option Status) : Prop where
  ended : st ≠ none
  front : ∃ y, fs'.bytes = fs.bytes ++ y
  done : st = some .done → Complete s ∧ fs'.bytes = fs.bytes ++ full s ∧ fs'.journal = none
  /-- killed: nothing has happened to the archive yet, or the complete journal is on disk -/
  died : st = some .died → fs'.archive = fs.archive ∨ fs'.journal = some (journalText fs.bytes.length)
  /-- an exception came out: the append was rolled back, or it was complete and only the removal of the
  journal failed -/
  raised : st = some .raised → s.ropen.isFail = false → s.rtrunc.isFail = false →
    fs'.bytes = fs.bytes ∨ s.unlink.isFail = true ∧ Complete s ∧ fs'.bytes = fs.bytes ++ full s
  /-- the journal is removed by the handler around its creation (`junlink`, I/O errors only) or in `finally` -/
  cleared : st = some .raised → fs.journal = none → e.isOSError = true → s.junlink.isFail = false →
    s.unlink.isFail = false → fs'.journal = none

namespace Outcome
variable {e : IOErr} {s : Sched} {fs fs' : FS} {st : Option Status}

/-- `write_record` ended before it opened the archive -/
theorem untouched (ha : fs'.archive = fs.archive) (hn : st ≠ none) (hd : st ≠ some .done)
    (hc : st = some .raised → fs.journal = none → e.isOSError = true → s.junlink.isFail = false →
      fs'.journal = none) : Outcome e s fs fs' st where
  ended := hn
  front := ⟨[], by simp [FS.bytes_congr ha]⟩
  done h := absurd h hd
  died _ := Or.inl ha
  raised _ _ _ := Or.inl (FS.bytes_congr ha)
  cleared h hj he hju _ := hc h hj he hju

/-- the process was killed while the journal guarded the archive -/
theorem killed (hj : fs'.journal = some (journalText fs.bytes.length)) (hy : ∃ y, fs'.bytes = fs.bytes ++ y) :
    Outcome e s fs fs' (some .died) where
  ended := nofun
  front := hy
  done := nofun
  died _ := Or.inr hj
  raised := nofun
  cleared := nofun

theorem appended (hc : Complete s) (hb : fs'.bytes = fs.bytes ++ full s) (hj : fs'.journal = none) :
    Outcome e s fs fs' (some .done) where
  ended := nofun
  front := ⟨_, hb⟩
  done _ := ⟨hc, hb, hj⟩
  died := nofun
  raised := nofun
  cleared := nofun

theorem rolledBack {y : Bytes} (hy : fs'.bytes = fs.bytes ++ y)
    (h0 : s.ropen.isFail = false → s.rtrunc.isFail = false → y = []) (hj : fs'.journal = none) :
    Outcome e s fs fs' (some .raised) where
  ended := nofun
  front := ⟨y, hy⟩
  done := nofun
  died := nofun
  raised _ ho ht := .inl (by rw [hy, h0 ho ht, List.append_nil])
  cleared _ _ _ _ _ := hj

/-- `finally: os.remove(journal)`; `o`: the outcome if that works -/
theorem unlink {x : FS} {tr : Trace} {q : Status} (o : Outcome e s fs { x with journal := none } (some q))
    (hj : x.journal = some (journalText fs.bytes.length)) (hq : q ≠ .died) :
    Outcome e s fs (unlinkStep x tr s q).fs (unlinkStep x tr s q).st := by
  rcases unlinkStep_cases x tr s q with ⟨h, hf⟩ | ⟨h, hf⟩ | ⟨h, hf, hw⟩ <;> rw [h, hf]
  · exact o
  · exact .killed hj o.front
  · -- not removed: the journal was there (`hj`), so the removal failed
    have hu : s.unlink.isFail = true := hw.resolve_left (by simp [hj])
    exact {
      ended := nofun
      front := o.front
      done := nofun
      died := nofun
      raised := fun _ ho ht => by
        cases q with
        | died => exact absurd rfl hq
        | raised => exact o.raised rfl ho ht
        | done => exact .inr ⟨hu, (o.done rfl).1, (o.done rfl).2.1⟩
      cleared := fun _ _ _ _ h => absurd hu (by simp [h]) }

theorem prefix_kept (o : Outcome e s fs fs' st) : fs'.bytes.take fs.bytes.length = fs.bytes := by
  obtain ⟨y, h⟩ := o.front
  rw [h]; simp

theorem restored (o : Outcome e s fs fs' st) (h : st = some .raised) (ho : s.ropen.isFail = false)
    (ht : s.rtrunc.isFail = false) (hu : s.unlink.isFail = false) : fs'.bytes = fs.bytes :=
  (o.raised h ho ht).resolve_right fun ⟨hf, _⟩ => Bool.false_ne_true (hu.symm.trans hf)

theorem recoverable (o : Outcome e s fs fs' st) (ho : s.ropen.isFail = false) (ht : s.rtrunc.isFail = false) :
    Recoverable fs.bytes s fs' := by
  cases hst : st with
  | none => exact absurd hst o.ended
  | some q =>
    cases q with
    | done => exact .inr (.inl ⟨(o.done hst).1, (o.done hst).2.1⟩)
    | died => exact (o.died hst).elim (fun h => .inl (FS.bytes_congr h)) fun h => .inr (.inr ⟨h, o.prefix_kept⟩)
    | raised => exact (o.raised hst ho ht).imp_right fun h => .inl h.2

/-- `V` is "is a valid record sequence" -/
theorem crash (o : Outcome e s fs fs' st) (V : Bytes → Prop) (hd : st = some .died) (hV : V fs.bytes) :
    V fs'.bytes ∨ ∃ j, fs'.journal = some j ∧ journalOffset? j = some fs.bytes.length ∧
      fs'.bytes.take fs.bytes.length = fs.bytes ∧ V (fs'.bytes.take fs.bytes.length) :=
  (o.died hd).imp (fun h => (FS.bytes_congr h).symm ▸ hV)
    fun h => ⟨_, h, journal_names_length _, o.prefix_kept, o.prefix_kept.symm ▸ hV⟩

end Outcome

theorem appendAndFinish_outcome (e : IOErr) (s : Sched) (fs jfs : FS) (ha : jfs.archive = fs.archive)
    (hj : jfs.journal = some (journalText fs.bytes.length)) :
    Outcome e s fs (appendAndFinish jfs fs.bytes.length s).fs (appendAndFinish jfs fs.bytes.length s).st := by
  have hb := FS.bytes_congr ha
  obtain ⟨haj, hnd, ⟨x, hx⟩, hnone⟩ := appendPhase_spec jfs s
  rw [hb] at hx hnone
  rw [hj] at haj
  unfold appendAndFinish
  simp only
  split
  · -- killed in the append
    rename_i h
    rw [h]
    exact .killed haj ⟨x, hx⟩
  · -- the append raised: roll-back, then the removal unless killed in the roll-back
    obtain ⟨hrj, y, hy, hy0⟩ := rollbackPhase_spec _ fs.bytes x s hx
    rw [haj] at hrj
    split
    · exact .killed hrj ⟨y, hy⟩
    · exact .unlink (.rolledBack hy (hy0 ‹_›) rfl) hrj nofun
  · -- the append went through: the phase never ends `done` (`hnd`)
    have hn : (appendPhase jfs s).st = none := by
      cases h : (appendPhase jfs s).st with
      | none => rfl
      | some q => cases q <;> simp_all
    exact .unlink (.appended (hnone hn).1 (hnone hn).2 rfl) haj nofun

theorem appendAndFinishE_eq (e : IOErr) (fs : FS) (n : Nat) (s : Sched) :
    appendAndFinishE e fs n s = appendAndFinish fs n s := by
  unfold appendAndFinishE appendAndFinish
  simp [handlerCatches]

theorem writeRecordE_outcome (e : IOErr) (fs : FS) (s : Sched) :
    Outcome e s fs (writeRecordE e fs s).fs (writeRecordE e fs s).st := by
  obtain ⟨ha, hd, hn, hr⟩ := journalPhaseE_spec e fs fs.bytes.length s
  unfold writeRecordE
  simp only [appendAndFinishE_eq]
  split
  · -- the `getsize` failed or was the kill
    rename_i st hst
    refine .untouched rfl nofun (fun h => ?_) fun _ h _ _ => h
    cases h
    split at hst
    · cases hst
    · split at hst <;> cases hst
  · split
    · -- the journal phase ended the run
      rename_i st hst
      exact .untouched ha nofun (hst ▸ hd) fun h _ => hr (hst.trans h)
    · exact appendAndFinish_outcome e s fs _ ha (hn ‹_›)

theorem writeRecordE_eq (e : IOErr) (h : e.isOSError = true) (fs : FS) (s : Sched) :
    writeRecordE e fs s = writeRecord fs s := by
  unfold writeRecordE writeRecord journalPhaseE
  simp [appendAndFinishE_eq, h]

/-- `.eio` stands for any class with `isOSError` (`writeRecordE_eq`); it is also the default of `Step.err` -/
theorem writeRecord_outcome (fs : FS) (s : Sched) :
    Outcome .eio s fs (writeRecord fs s).fs (writeRecord fs s).st :=
  writeRecordE_eq .eio rfl fs s ▸ writeRecordE_outcome .eio fs s

/-- **Earlier bytes are never touched.**  For every schedule -- any number of faults anywhere, also inside the
roll-back, a kill at any instant -- the bytes the archive held before the attempt are still its first bytes. -/
theorem earlier_bytes_intact (fs : FS) (s : Sched) :
    ((writeRecord fs s).fs.bytes).take fs.bytes.length = fs.bytes :=
  (writeRecord_outcome fs s).prefix_kept

/-- `write_record` returned normally: the archive is the old bytes plus everything the
append layer emitted, every raw write went through, and the journal is gone. -/
theorem success_appends (fs : FS) (s : Sched)
    (hdone : (writeRecord fs s).st = some .done) :
    Complete s ∧ (writeRecord fs s).fs.bytes = fs.bytes ++ full s ∧ (writeRecord fs s).fs.journal = none :=
  (writeRecord_outcome fs s).done hdone

/-- **always_recoverable** (second sentence of C06, and more).  For every schedule in which the roll-back's own open
and truncate do not fail -- any faults elsewhere, a kill at any instant -- and however the run ended, the state
left behind is `Recoverable`; in its third case, truncating to the length the journal names restores the old
bytes. -/
theorem always_recoverable (fs : FS) (s : Sched)
    (ho : s.ropen.isFail = false) (ht : s.rtrunc.isFail = false) :
    Recoverable fs.bytes s (writeRecord fs s).fs :=
  (writeRecord_outcome fs s).recoverable ho ht

/-- **journal_before_archive_open**: at every instant of every execution -- the process killed at any primitive of
any schedule -- if the archive differs in any way from what it was before (even only by having been created), the
journal file holds the complete journal text. -/
theorem journal_before_archive_open (fs : FS) (s : Sched)
    (hdied : (writeRecord fs s).st = some .died)
    (hchg : (writeRecord fs s).fs.archive ≠ fs.archive) :
    (writeRecord fs s).fs.journal = some (journalText fs.bytes.length) :=
  ((writeRecord_outcome fs s).died hdied).resolve_left hchg

/-- **crash_recoverable** (second sentence of C06), for all schedules: any faults before the kill (also inside the
roll-back), the kill at any primitive, after any prefix of any write.  If the archive was valid before (`V`), the
archive on disk is valid, or the journal on disk names the old length and the archive cut to that length is the old
archive. -/
theorem crash_recoverable (V : Bytes → Prop) (fs : FS) (s : Sched)
    (hdied : (writeRecord fs s).st = some .died)
    (hV0 : V fs.bytes) :
    V (writeRecord fs s).fs.bytes ∨
    (∃ j, (writeRecord fs s).fs.journal = some j ∧ journalOffset? j = some fs.bytes.length ∧
      ((writeRecord fs s).fs.bytes).take fs.bytes.length = fs.bytes ∧
      V (((writeRecord fs s).fs.bytes).take fs.bytes.length)) :=
  (writeRecord_outcome fs s).crash V hdied hV0

/-- The hypothesis of `fault_restores` / `always_recoverable` is needed: when the roll-back cannot open the archive,
the tail of the failed append stays behind the old bytes and `finally` still removes the journal. -/
theorem rollback_fault_counterexample :
    ∃ (fs : FS) (s : Sched), fs.journal = none ∧ (writeRecord fs s).status = .raised ∧
      (writeRecord fs s).fs = ⟨some [1, 2], none⟩ ∧ fs.bytes = [1] ∧
      ¬ Recoverable fs.bytes s (writeRecord fs s).fs :=
  ⟨⟨some [1], none⟩, { awrites := [([2, 3], .fail 1)], ropen := .fail 0 }, by decide, by decide, by decide,
    by decide, by
      intro h
      rcases h with h | ⟨⟨hc, _⟩, _⟩ | ⟨h, _⟩
      · revert h; decide
      · have := hc ([2, 3], .fail 1) (by simp); simp at this
      · revert h; decide⟩

/-! The class of the exception matters in one place: the `except (OSError, IOError)` around the journal creation does
not catch KeyboardInterrupt, CancelledError, SystemExit, MemoryError, …, so a journal whose creation one of them
interrupts stays (the archive is untouched then). -/

/-- two runs that differ only in the class of their I/O errors end in the same state, trace and status -/
theorem error_class_irrelevant (e₁ e₂ : IOErr) (h₁ : e₁.isOSError = true) (h₂ : e₂.isOSError = true)
    (fs : FS) (s : Sched) : writeRecordE e₁ fs s = writeRecordE e₂ fs s := by
  rw [writeRecordE_eq e₁ h₁, writeRecordE_eq e₂ h₂]

/-- **fault_restores for every class of I/O error**: PermissionError / FileNotFoundError / … at any primitive (open,
any write after any prefix, flush, close) are rolled back like ENOSPC. -/
theorem fault_restores_any_class (e : IOErr) (he : e.isOSError = true) (fs : FS) (s : Sched)
    (hj : fs.journal = none) (hraised : (writeRecordE e fs s).status = .raised)
    (ho : s.ropen.isFail = false) (ht : s.rtrunc.isFail = false)
    (hu : s.unlink.isFail = false) (hju : s.junlink.isFail = false) :
    (writeRecordE e fs s).fs.bytes = fs.bytes ∧ (writeRecordE e fs s).fs.journal = none :=
  have o := writeRecordE_outcome e fs s
  have h := (Ph.st_eq o.ended).trans (congrArg some hraised)
  ⟨o.restored h ho ht hu, o.cleared h hj he hju hu⟩

/-- **fault_restores** (first sentence of C06).  No journal before; OSError comes out of `write_record` after any
number of faults in the stat, the journal creation, the open for append, the raw writes (each after any prefix),
the record source, the closes (also that of the roll-back); the primitives that undo things did not fail
themselves (open + truncate of the roll-back, the removal of the journal in the handler of its creation and in
`finally`).  Then the archive holds exactly the bytes it held before and no journal file remains. -/
theorem fault_restores (fs : FS) (s : Sched) (hj : fs.journal = none)
    (hraised : (writeRecord fs s).status = .raised)
    (ho : s.ropen.isFail = false) (ht : s.rtrunc.isFail = false)
    (hu : s.unlink.isFail = false) (hju : s.junlink.isFail = false) :
    (writeRecord fs s).fs.bytes = fs.bytes ∧ (writeRecord fs s).fs.journal = none := by
  rw [← writeRecordE_eq .eio rfl] at hraised ⊢
  exact fault_restores_any_class .eio rfl fs s hj hraised ho ht hu hju

/-- **An interrupted append is rolled back, whatever interrupts it**: for every exception class -- I/O error or
KeyboardInterrupt, CancelledError, SystemExit, MemoryError, an error of the record source -- and every schedule
whose undo primitives (roll-back open/truncate, final journal removal) do not fail, once the exception has come out
of `write_record` the archive holds exactly the bytes it held before.  Of the journal nothing is said. -/
theorem interrupted_append_restores (e : IOErr) (fs : FS) (s : Sched)
    (hraised : (writeRecordE e fs s).st = some .raised)
    (ho : s.ropen.isFail = false) (ht : s.rtrunc.isFail = false) (hu : s.unlink.isFail = false) :
    (writeRecordE e fs s).fs.bytes = fs.bytes :=
  (writeRecordE_outcome e fs s).restored hraised ho ht hu

/-- `always_recoverable` for any exception class, `Recoverable` written out -/
theorem always_recoverable_any_exception (e : IOErr) (fs : FS) (s : Sched)
    (ho : s.ropen.isFail = false) (ht : s.rtrunc.isFail = false) :
    fs.bytes = (writeRecordE e fs s).fs.bytes ∨
    ((∀ p ∈ s.awrites, p.2 = Out.ok) ∧ s.srcFail = false ∧ (writeRecordE e fs s).fs.bytes = fs.bytes ++ full s) ∨
    ((writeRecordE e fs s).fs.journal = some (journalText fs.bytes.length) ∧
      ((writeRecordE e fs s).fs.bytes).take fs.bytes.length = fs.bytes) :=
  ((writeRecordE_outcome e fs s).recoverable ho ht).imp Eq.symm (Or.imp_left fun ⟨⟨h1, h2⟩, h3⟩ => ⟨h1, h2, h3⟩)

/-- `crash_recoverable` for any exception class -/
theorem crash_recoverable_any_exception (V : Bytes → Prop) (e : IOErr) (fs : FS) (s : Sched)
    (hdied : (writeRecordE e fs s).st = some .died) (hV0 : V fs.bytes) :
    V (writeRecordE e fs s).fs.bytes ∨
    (∃ j, (writeRecordE e fs s).fs.journal = some j ∧ journalOffset? j = some fs.bytes.length ∧
      ((writeRecordE e fs s).fs.bytes).take fs.bytes.length = fs.bytes ∧
      V (((writeRecordE e fs s).fs.bytes).take fs.bytes.length)) :=
  (writeRecordE_outcome e fs s).crash V hdied hV0

/-- **startup_refuses**: while the journal of any archive of this prefix (plain, numbered
`-00000`, `-meta`; gzip or not) is in the directory, `_check_journals_and_maybe_raise` raises. -/
theorem startup_refuses (namePrefix seq : Str) (compress : Bool) (listing : List Str)
    (h : journalName namePrefix seq compress ∈ listing) : startupRefuses namePrefix listing = true := by
  unfold startupRefuses
  rw [List.any_eq_true]
  refine ⟨_, h, ?_⟩
  unfold isJournalName journalName warcName
  rw [Bool.and_eq_true]
  constructor
  · rw [List.append_assoc, List.append_assoc]; exact startsWith_append _ _
  · exact endsWith_append _ _  -- `WarcWrite.endsWith` unfolds to the same term as `Wpull.endsWith`

/-- without a file that carries the prefix and the journal suffix the run starts -/
theorem startup_starts (namePrefix : Str) (listing : List Str)
    (h : ∀ name ∈ listing, isJournalName namePrefix name = false) :
    startupRefuses namePrefix listing = false := by
  unfold startupRefuses
  rw [List.any_eq_false]
  intro x hx; simp [h x hx]

/- `rfl` where the journal text stands on both sides (it is not
evaluated then); elsewhere `lit_ofList` first, since evaluating `String.toList` on a literal is slow. -/

-- OSError after 1 byte of the first raw write, the layer re-issues the write while closing: rolled back
example : (writeRecord ⟨some [1, 2, 3], none⟩ { awrites := [([4, 5], .fail 1), ([4, 5], .ok)] }).status = .raised ∧
    (writeRecord ⟨some [1, 2, 3], none⟩ { awrites := [([4, 5], .fail 1), ([4, 5], .ok)] }).fs
      = ⟨some [1, 2, 3], none⟩ := by decide
-- three faults (write, close of the archive, close of the roll-back): still restored
example : (writeRecord ⟨some [1, 2, 3], none⟩
      { awrites := [([4, 5], .fail 2)], aclose := .fail 0, rclose := .fail 0 }).fs = ⟨some [1, 2, 3], none⟩ := by decide
-- journal write fails after 5 bytes, retry works: journal removed, archive untouched
example : (writeRecord ⟨some [1, 2, 3], none⟩ { jwrite := .fail 5 }).fs = ⟨some [1, 2, 3], none⟩ ∧
    (writeRecord ⟨some [1, 2, 3], none⟩ { jwrite := .fail 5 }).status = .raised := by decide
-- killed after 1 byte of the second write: journal names length 3, old bytes in front
example : (writeRecord ⟨some [1, 2, 3], none⟩ { awrites := [([4], .ok), ([5, 6], .die 1)] }).fs
      = ⟨some [1, 2, 3, 4, 5], some (journalText 3)⟩ ∧
    (writeRecord ⟨some [1, 2, 3], none⟩ { awrites := [([4], .ok), ([5, 6], .die 1)] }).st = some .died := ⟨rfl, rfl⟩
-- killed between truncate and close of the roll-back
example : (writeRecord ⟨some [1, 2, 3], none⟩ { awrites := [([4], .fail 1)], rclose := .die 0 }).fs
      = ⟨some [1, 2, 3], some (journalText 3)⟩ := rfl
example : (writeRecord ⟨some [1, 2, 3], none⟩ { awrites := [([4], .ok), ([5, 6], .ok)] }).fs
      = ⟨some [1, 2, 3, 4, 5, 6], none⟩ ∧
    (writeRecord ⟨some [1, 2, 3], none⟩ { awrites := [([4], .ok), ([5, 6], .ok)] }).st = some .done := by decide
example : journalOffset? (journalText 1234567) = some 1234567 := by
  unfold journalOffset? journalText
  repeat rw [lit_ofList]
  decide
example : journalText 468 = lit "wpull-journal-version:1\noffset:468\n" := by
  unfold journalText
  repeat rw [lit_ofList]
  decide
example : startupRefuses (lit "site[1]") [lit "site[1]-00003.warc.gz-wpullinc"] = true := by
  unfold startupRefuses isJournalName journalSuffix
  repeat rw [lit_ofList]
  decide
example : startupRefuses (lit "site") [lit "site.warc.gz", lit "other.warc-wpullinc"] = false := by
  unfold startupRefuses isJournalName journalSuffix
  repeat rw [lit_ofList]
  decide

-- KeyboardInterrupt in a write after 1 byte: rolled back; in the journal write: journal stays, archive untouched
example : (writeRecordE .keyboardInterrupt ⟨some [1, 2, 3], none⟩ { awrites := [([4, 5], .fail 1)] }).fs
    = ⟨some [1, 2, 3], none⟩ := by decide
example : (writeRecordE .memoryError ⟨some [1, 2, 3], none⟩ { jwrite := .fail 2, jretry := .fail 0 }).fs
    = ⟨some [1, 2, 3], some ((journalText 3).take 2)⟩ := by
  simp [writeRecordE, journalPhaseE, journalCreate, closeStep, IOErr.isOSError, FS.bytes]
example : (writeRecordE .eacces ⟨some [1, 2, 3], none⟩ { awrites := [([4, 5], .fail 1)] }).fs
    = ⟨some [1, 2, 3], none⟩ := by decide

/-- **append_handle_closed** — the `with open_func(archive, 'ab')` block (`appendPhase`: the roll-back and the removal
of the journal come after it) issues the close of the handle it opened, on the success path and on every failure
path, unless the process is killed inside it.  So `write_record` leaves nothing that could write later, and what is
said of the state after it holds at every later time while no further operation is started.  (The correspondence
stream observes that: it reads the files after the exception object has been dropped and the collector has run.) -/
theorem append_handle_closed (fs : FS) (s : Sched) (hopen : s.aopen = .ok)
    (hd : (appendPhase fs s).st ≠ some .died) :
    ∃ t, (Prim.aclose, t) ∈ (appendPhase fs s).tr := by
  unfold appendPhase at hd ⊢
  simp only [hopen] at hd ⊢
  split
  · rename_i h; simp [h] at hd
  · exact ⟨s.aclose.tag, by simp [closeStep_tr]⟩

example : ∃ t, (Prim.aclose, t) ∈ (appendPhase ⟨some [1], some []⟩ { awrites := [([2, 3], .fail 1)] }).tr :=
  ⟨.ok, by decide⟩

/-- the file system `t` observations later when no operation is started -/
def idle (fs : FS) : Nat → FS
  | 0 => fs
  | t + 1 => idle fs t

theorem idle_eq (fs : FS) (t : Nat) : idle fs t = fs := by
  induction t with
  | zero => rfl
  | succ t ih => exact ih

/-- **fault_restores, observed late**: `fault_restores_any_class` read through `idle`, which is the identity: the
model has nothing that could write later (`append_handle_closed` is the part with content). -/
theorem fault_restores_at_every_later_time (e : IOErr) (he : e.isOSError = true) (fs : FS) (s : Sched) (t : Nat)
    (hj : fs.journal = none)
    (hraised : (writeRecordE e fs s).status = .raised)
    (ho : s.ropen.isFail = false) (ht : s.rtrunc.isFail = false)
    (hu : s.unlink.isFail = false) (hju : s.junlink.isFail = false) :
    (idle (writeRecordE e fs s).fs t).bytes = fs.bytes ∧ (idle (writeRecordE e fs s).fs t).journal = none := by
  rw [idle_eq]
  exact fault_restores_any_class e he fs s hj hraised ho ht hu hju

theorem journalOf_ne (a : Str) : journalOf a ≠ a := by
  rw [journalOf, journalSuffix, lit_ofList, ne_eq, List.append_right_eq_self]
  exact List.cons_ne_nil _ _

theorem appendTo_archive (m : Dir) (a : Str) (s : Sched) (e : IOErr) :
    (appendTo m a s e).dir a = (writeRecordE e ⟨m a, m (journalOf a)⟩ s).fs.archive := by
  simp [appendTo, Dir.set, (journalOf_ne a).symm]

theorem appendTo_journal (m : Dir) (a : Str) (s : Sched) (e : IOErr) :
    (appendTo m a s e).dir (journalOf a) = (writeRecordE e ⟨m a, m (journalOf a)⟩ s).fs.journal := by
  simp [appendTo, Dir.set]

theorem appendTo_outcome (m : Dir) (a : Str) (s : Sched) (e : IOErr) :
    Outcome e s ⟨m a, m (journalOf a)⟩ ⟨(appendTo m a s e).dir a, (appendTo m a s e).dir (journalOf a)⟩
      (some (appendTo m a s e).st) := by
  have o := writeRecordE_outcome e ⟨m a, m (journalOf a)⟩ s
  rw [Ph.st_eq o.ended] at o
  rw [appendTo_archive, appendTo_journal]
  exact o

theorem appendTo_frame (m : Dir) (a : Str) (s : Sched) (e : IOErr) (x : Str) (h1 : x ≠ a) (h2 : x ≠ journalOf a) :
    (appendTo m a s e).dir x = m x := by
  simp [appendTo, Dir.set, h1, h2]

def Prim.onJournal : Prim → Bool
  | .jopen | .jwrite _ | .jclose | .junlink | .unlink => true
  | _ => false

theorem fileOf_eq (a : Str) (p : Prim) : fileOf a p = if p.onJournal then journalOf a else a := by
  cases p <;> rfl

/-- **The journal sits next to the archive it guards**, for all three kinds of archive name (`<prefix>.warc[.gz]`,
`<prefix>-NNNNN.warc[.gz]`, `<prefix>-meta.warc[.gz]`: `seq` is arbitrary): in an append, under every schedule, every
journal primitive (create, write, close, remove) acts on the archive's name ++ `"-wpullinc"` and every other
primitive on the archive itself. -/
theorem journal_next_to_archive (m : Dir) (p seq : Str) (c : Bool) (s : Sched) (err : IOErr) :
    ∀ e ∈ (appendTo m (warcName p seq c) s err).tr,
      (e.2.1.onJournal = true → e.1 = journalName p seq c ∧ e.1 = warcName p seq c ++ lit "-wpullinc") ∧
      (e.2.1.onJournal = false → e.1 = warcName p seq c) := by
  intro e he
  simp only [appendTo, List.mem_map] at he
  obtain ⟨x, _, rfl⟩ := he
  simp only [fileOf_eq]
  cases x.1.onJournal <;> simp [journalOf, journalName, journalSuffix]

/-- `crash_recoverable` per archive of a directory: killed inside an append aimed at `a`, the journal that names the
old length is `a`'s own, `a ++ "-wpullinc"`, and every other file is what it was. -/
theorem life_append_crash_recoverable (V : Bytes → Prop) (m : Dir) (a : Str) (s : Sched) (e : IOErr)
    (hdied : (appendTo m a s e).st = .died) (hV0 : V ((m a).getD [])) :
    (V (((appendTo m a s e).dir a).getD []) ∨
      ∃ j, (appendTo m a s e).dir (journalOf a) = some j ∧ journalOffset? j = some ((m a).getD []).length ∧
        (((appendTo m a s e).dir a).getD []).take ((m a).getD []).length = (m a).getD [] ∧
        V ((((appendTo m a s e).dir a).getD []).take ((m a).getD []).length)) ∧
    ∀ x, x ≠ a → x ≠ journalOf a → (appendTo m a s e).dir x = m x :=
  ⟨(appendTo_outcome m a s e).crash V (congrArg some hdied) hV0, appendTo_frame m a s e⟩

theorem truncateFile_frame (m : Dir) (a : Str) (o1 o2 : Out) (x : Str) (h : x ≠ a) :
    (truncateFile m a o1 o2).dir x = m x := by
  unfold truncateFile
  split
  iterate 2 rfl
  · split <;> simp [Dir.set, h]

/-- **Non-appending start**: `_start_new_warc_file` of a run without `--warc-append` first empties whatever an earlier
run left under the name, then appends the warcinfo record.  Once the truncation went through, the step is an append
to the empty file: the "bytes before the attempt" of that first append are the empty file, not the left-over
contents. -/
theorem nonappending_start_is_append_to_empty (m : Dir) (st : Step) (hk : st.kind = .startTrunc)
    (h1 : st.topen = .ok) (h2 : st.tclose = .ok) :
    (runStep m st).dir = (appendTo (m.set st.target (some [])) st.target st.sched st.err).dir ∧
    (runStep m st).st = (appendTo (m.set st.target (some [])) st.target st.sched st.err).st ∧
    (runStep m st).tr = [(st.target, .topen, .ok), (st.target, .tclose, .ok)] ++
      (appendTo (m.set st.target (some [])) st.target st.sched st.err).tr := by
  simp [runStep, hk, truncateFile, h1, h2]

theorem startTrunc_outcome (m : Dir) (st : Step) (hk : st.kind = .startTrunc) (h1 : st.topen = .ok)
    (h2 : st.tclose = .ok) :
    Outcome st.err st.sched ⟨some [], m (journalOf st.target)⟩
      ⟨(runStep m st).dir st.target, (runStep m st).dir (journalOf st.target)⟩ (some (runStep m st).st) := by
  obtain ⟨hd, hs, _⟩ := nonappending_start_is_append_to_empty m st hk h1 h2
  have o := appendTo_outcome (m.set st.target (some [])) st.target st.sched st.err
  rw [← hs, ← hd] at o
  simpa [Dir.set, journalOf_ne] using o

/-- after an OSError in the first append of a non-appending start (roll-back primitives and removals not
failing, no journal of that archive before) the archive is empty and has no journal, whatever was left over before -/
theorem nonappending_start_fault_restores_empty (m : Dir) (st : Step) (hk : st.kind = .startTrunc)
    (h1 : st.topen = .ok) (h2 : st.tclose = .ok) (hj : m (journalOf st.target) = none)
    (he : st.err.isOSError = true) (hraised : (runStep m st).st = .raised)
    (ho : st.sched.ropen.isFail = false) (ht : st.sched.rtrunc.isFail = false)
    (hu : st.sched.unlink.isFail = false) (hju : st.sched.junlink.isFail = false) :
    ((runStep m st).dir st.target).getD [] = [] ∧ (runStep m st).dir (journalOf st.target) = none := by
  have o := startTrunc_outcome m st hk h1 h2
  have h := congrArg some hraised
  exact ⟨o.restored h ho ht hu, o.cleared h hj he hju hu⟩

/-- after a kill anywhere in a non-appending start (during the truncation or during the first
append, any schedule): the archive is still the left-over file, or it is empty, or its own journal holds
the journal text of length 0 (cutting to 0 gives the empty archive). -/
theorem nonappending_start_crash (m : Dir) (st : Step) (hk : st.kind = .startTrunc)
    (hdied : (runStep m st).st = .died) :
    (runStep m st).dir st.target = m st.target ∨ (runStep m st).dir st.target = some [] ∨
    (runStep m st).dir (journalOf st.target) = some (journalText 0) := by
  cases h1 : st.topen with
  | fail k => simp [runStep, hk, truncateFile, h1] at hdied
  | die k => left; simp [runStep, hk, truncateFile, h1]
  | ok =>
    cases h2 : st.tclose with
    | fail k => simp [runStep, hk, truncateFile, h1, h2] at hdied
    | die k => right; left; simp [runStep, hk, truncateFile, h1, h2, Dir.set]
    | ok => exact .inr ((startTrunc_outcome m st hk h1 h2).died (congrArg some hdied))

theorem runStep_frame (m : Dir) (st : Step) (x : Str) (h1 : x ≠ st.target) (h2 : x ≠ journalOf st.target) :
    (runStep m st).dir x = m x := by
  unfold runStep
  split
  · simp only
    split
    · rw [appendTo_frame _ _ _ _ _ h1 h2, truncateFile_frame _ _ _ _ _ h1]
    · exact truncateFile_frame _ _ _ _ _ h1
  · exact appendTo_frame _ _ _ _ _ h1 h2

/-- over a whole life (any steps, any schedules) a file that is neither the archive a step is aimed at nor that
archive's journal is never touched: no append to one archive creates, alters or removes the journal or the bytes
of another. -/
theorem life_frame (steps : List Step) (m : Dir) (x : Str)
    (h : ∀ st ∈ steps, x ≠ st.target ∧ x ≠ journalOf st.target) : (runLife m steps).dir x = m x := by
  induction steps generalizing m with
  | nil => rfl
  | cons st rest ih =>
    have hst := h st (by simp)
    unfold runLife
    simp only
    split
    · rw [ih _ (fun s hs => h s (by simp [hs])), runStep_frame _ _ _ hst.1 hst.2]
    · exact runStep_frame _ _ _ hst.1 hst.2

/-- a life over a directory that holds the journal of any archive of the prefix (plain, numbered, -meta;
gzip or not) ends in `__init__` with OSError and touches nothing -/
theorem life_refuses_over_stale_journal (p seq : Str) (c : Bool) (names : List Str) (m : Dir) (steps : List Step)
    (hn : journalName p seq c ∈ names) (hm : (m (journalName p seq c)).isSome = true) :
    startLife p names m steps = ⟨m, .raised, []⟩ := by
  unfold startLife
  rw [if_pos]
  exact startup_refuses p seq c _ (by simp [hn, hm])

/-- **A refused start is the identity on the file system**: `life_refuses_over_stale_journal` read field by field.
Whatever steps the new run would have taken (appending or not, with or without max_size), it raises, issues no
primitive and leaves every file as it was: every archive still holds the bytes its journal's recovery recipe
needs, and the journal is still there. -/
theorem refused_start_is_identity (p seq : Str) (c : Bool) (names : List Str) (m : Dir) (steps : List Step)
    (hn : journalName p seq c ∈ names) (hm : (m (journalName p seq c)).isSome = true) :
    (startLife p names m steps).st = .raised ∧ (startLife p names m steps).tr = [] ∧
    ∀ x, (startLife p names m steps).dir x = m x := by
  rw [life_refuses_over_stale_journal p seq c names m steps hn hm]
  exact ⟨rfl, rfl, fun _ => rfl⟩

example : (runStep (Dir.ofList [(lit "w.warc", some [7, 7, 7])])
      { kind := .startTrunc, target := lit "w.warc", sched := { awrites := [([1, 2], .fail 1)] } }).st = .raised ∧
    (runStep (Dir.ofList [(lit "w.warc", some [7, 7, 7])])
      { kind := .startTrunc, target := lit "w.warc", sched := { awrites := [([1, 2], .fail 1)] } }).dir (lit "w.warc")
      = some [] := by
  rw [lit_ofList]
  decide
example : (runStep (Dir.ofList [(lit "w-meta.warc", some [7])])
      { kind := .append, target := lit "w-meta.warc", sched := { awrites := [([1, 2], .die 1)] } }).dir
        (lit "w-meta.warc-wpullinc") = some (journalText 1) := by
  unfold runStep appendTo journalOf journalSuffix
  repeat rw [lit_ofList]
  rfl
example : journalOf (warcName (lit "w") (lit "-meta") true) = lit "w-meta.warc.gz-wpullinc" := by
  unfold journalOf warcName journalSuffix
  repeat rw [lit_ofList]
  decide

end Wpull.WarcWrite
