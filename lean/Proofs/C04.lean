/-
C04 — WARC records hold exactly the bytes exchanged on the wire.
What the read listeners (hence the WARC recorder session, which appends every event's data to the
record block) receive for a response is exactly the message's bytes on the wire: each framing layer of
`rfc` hands on exactly the bytes it has cut off the stream (`…_accounts`), so a complete message and what
follows it make up the stream (`rfc_ok`); the reader follows by `agrees_with_spec`.  Then the recorder
itself: the record blocks, the revisit block cut at `_find_payload_offset`, the de-duplication test.
-/
import Proofs.C08
import Proofs.Lemmas.Lines
namespace Wpull.HttpWire
open Wpull.Ftp

variable {D : Type} {dc : Decoder D}

theorem specTrailer_accounts {fuel : Nat} {r : Bytes} {eof : Bool} {acc t r' : Bytes}
    (h : specTrailer fuel r eof acc = .ok t r') : t ++ r' = acc ++ r := by
  fun_induction specTrailer fuel r eof acc with
  | case5 _ _ _ _ _ _ hrl => cases h; simp [readlineFlat_line hrl]
  | case6 _ _ _ _ _ _ hrl _ _ ih => simp [ih h, readlineFlat_line hrl]
  | _ => cases h

theorem specLength_accounts {n : Nat} {r : Bytes} {eof : Bool} {a a' : Acc D} {r' : Bytes}
    (h : specLength dc n r eof a = .ok a' r') : a'.notified ++ r' = a.notified ++ r := by
  obtain ⟨_, hd, rfl⟩ := specLength_ok h
  simp [Acc.data_notified hd]

theorem specClose_accounts {r : Bytes} {eof : Bool} {a a' : Acc D} {r' : Bytes}
    (h : specClose dc r eof a = .ok a' r') : a'.notified ++ r' = a.notified ++ r := by
  obtain ⟨_, hd, rfl⟩ := specClose_ok h
  simp [Acc.data_notified hd]

theorem specChunked_accounts {fuel0 fuel : Nat} {r : Bytes} {eof : Bool} {a a' : Acc D} {t r' : Bytes}
    (h : specChunked dc fuel0 fuel r eof a = .ok a' t r') : a'.notified ++ r' = a.notified ++ r := by
  fun_induction specChunked dc fuel0 fuel r eof a with
  | case9 fuel r eof a l r1 hrl hl a1 a2 hfl t' r2 htr hsz =>
    -- last chunk: size line, trailer section
    cases h
    simp +zetaDelta [Acc.note, Acc.flush_notified hfl, readlineFlat_line hrl, specTrailer_accounts htr]
  | case14 fuel r eof a l r1 hrl hl size hsz a1 hz hle a2 hd nl r3 hrl2 hlen ih =>
    -- a chunk: size line, data, line end; then the chunks after it
    have := readlineFlat_line hrl2
    simp +zetaDelta [ih h, Acc.note, Acc.data_notified hd, readlineFlat_line hrl, ← this]
  | _ => cases h

theorem specBody_ok {cfg : StreamCfg} {req : ReqInfo} {fuel : Nat} {st : Status} {f : Fields} {r nt : Bytes}
    {w : Wire} (h : ∃ st' f' b, (specBody dc cfg req fuel st f r nt w).outcome = .ok st' f' b) :
    ∃ o nt' r' cl, specBody dc cfg req fuel st f r nt w = specOf w o nt' r' cl ∧ nt' ++ r' = nt ++ r := by
  unfold specBody at h ⊢
  split at h
  · obtain ⟨a, t, r', o, hb, hs⟩ := finishChunkedSpec_ok h
    exact ⟨_, _, _, _, hs, specChunked_accounts hb⟩
  · split at h <;> obtain ⟨a, r', o, hb, hs⟩ := finishSpec_ok h
    · exact ⟨_, _, _, _, hs, specClose_accounts hb⟩
    · exact ⟨_, _, _, _, hs, specLength_accounts hb⟩
  · obtain ⟨a, r', o, hb, hs⟩ := finishSpec_ok h
    exact ⟨_, _, _, _, hs, specClose_accounts hb⟩

theorem rfc_ok {cfg : StreamCfg} {req : ReqInfo} {w : Wire}
    (h : ∃ st f b, (rfc dc cfg req w).outcome = .ok st f b) :
    ∃ o nt r cl, rfc dc cfg req w = specOf w o nt r cl ∧ nt ++ r = w.bytes := by
  obtain ⟨block, nt, r, st, f, hh, hp⟩ := head_of_rfc_ok h
  rw [rfc_of_head hh hp] at h ⊢
  by_cases hnb : isNoBody req st = true
  · rw [if_pos hnb]; exact ⟨_, _, _, _, rfl, specHead_accounts hh⟩
  · rw [if_neg hnb] at h ⊢
    obtain ⟨o, nt', r', cl, hs, hacc⟩ := specBody_ok h
    exact ⟨_, _, _, _, hs, hacc.trans (specHead_accounts hh)⟩

/-- **C04 `rfc_accounts`.**  The specification accounts for every byte: a complete message's bytes ++ what
follows = the stream. -/
theorem rfc_accounts (cfg : StreamCfg) (req : ReqInfo) (w : Wire) (st : Status) (f : Fields) (b : Bytes)
    (h : (rfc dc cfg req w).outcome = .ok st f b) :
    (rfc dc cfg req w).notified ++ (rfc dc cfg req w).rest = w.bytes := by
  obtain ⟨o, nt, r, cl, hs, hacc⟩ := rfc_ok ⟨st, f, b, h⟩
  rw [hs]; exact hacc

/-- **C04 `reported_equals_consumed`.**  For every byte stream, schedule, request and configuration: when
a response completes, the bytes handed to the read listeners — which the WARC recorder session appends
verbatim to the response record block — are exactly the first `message length` bytes the server sent for
it: status line and header block as formatted by the server, body still in its transfer and content
coding, chunk framing and trailers; surplus after a length-delimited body (overrun) is cut off exactly
at Content-Length. -/
theorem reported_equals_consumed (h : dc.Hom) (cfg : StreamCfg) (req : ReqInfo) (σ : List Nat) (w : Wire)
    (st : Status) (f : Fields) (b : Bytes) (hok : (decode dc cfg req σ w).outcome = .ok st f b) :
    (decode dc cfg req σ w).notified = w.bytes.take (rfc dc cfg req w).length ∧
    (rfc dc cfg req w).length ≤ (decode dc cfg req σ w).consumed := by
  have a := agrees_with_spec h cfg req σ w
  have hs : ∃ st f b, (rfc dc cfg req w).outcome = .ok st f b := ⟨st, f, b, a.outcome ▸ hok⟩
  refine ⟨?_, by rcases a.framing hs with ⟨_, c, _⟩ | ⟨_, hl, _⟩ <;> omega⟩
  obtain ⟨o, nt, r, cl, hr, hacc⟩ := rfc_ok hs
  rw [a.notified hs, hr]
  simp [specOf, ← hacc]

theorem foldl_requestData (ds : List Bytes) (b : Blocks) :
    (ds.map Ev.requestData).foldl recordStep b = { b with curReq := b.curReq ++ ds.flatten } := by
  induction ds generalizing b with
  | nil => simp
  | cons d t ih => simp [recordStep, ih]

/-- **C04 `request_block_is_bytes_written`.**  The request record block is the concatenation of everything
`write_request` / `write_body` handed to the connection for that request. -/
theorem request_block_is_bytes_written (reqData : List Bytes) (r : Result) (hn : Bytes) :
    (record (exchangeEvents reqData r hn)).request = [reqData.flatten] := by
  unfold record exchangeEvents
  cases r.outcome <;> simp [foldl_requestData, recordStep]

/-- **C04 `one_request_one_response_per_exchange`.**  Each exchange yields exactly one request record; a
completed exchange yields exactly one response record whose block is the reported response bytes, any
other exchange none.  (`exchangeEvents` takes the bytes reported for the head as a free parameter; they
have to be a prefix of `r.notified`, hence `take k`.) -/
theorem one_request_one_response_per_exchange (reqData : List Bytes) (r : Result) (k : Nat) :
    (record (exchangeEvents reqData r (r.notified.take k))).request.length = 1 ∧
    (match r.outcome with
     | .ok _ _ _ => (record (exchangeEvents reqData r (r.notified.take k))).response = [r.notified]
     | _ => (record (exchangeEvents reqData r (r.notified.take k))).response = []) := by
  refine ⟨by rw [request_block_is_bytes_written]; rfl, ?_⟩
  unfold record exchangeEvents
  cases r.outcome with
  | ok => simpa [foldl_requestData, recordStep] using List.prefix_iff_eq_append.mp (List.take_prefix k r.notified)
  | _ => simp [foldl_requestData, recordStep]

/-- **C04 `revisit_block_is_wire_prefix`.**  When the de-duplication table reports the payload as seen,
the record becomes a revisit record whose block is the recorded response cut at `_find_payload_offset`:
a prefix of the reported bytes, hence — for every byte stream and schedule — a prefix of what the server
sent for that response. -/
theorem revisit_block_is_wire_prefix (h : dc.Hom) (cfg : StreamCfg) (req : ReqInfo) (σ : List Nat) (w : Wire)
    (st : Status) (f : Fields) (b : Bytes) (hok : (decode dc cfg req σ w).outcome = .ok st f b) :
    revisitBlock (decode dc cfg req σ w).notified <+: w.bytes := by
  have hr := (reported_equals_consumed h cfg req σ w st f b hok).1
  unfold revisitBlock
  rw [hr, List.take_take]
  exact List.take_prefix _ _

/-- **C04 `revisit_needs_payload_identity`.**  A capture of a URL listed in the `--warc-dedup` index
becomes a revisit record (block cut down to the header) only if both runs computed payload digests and
the two digests are the same string — never when the index was written, or the current run is made,
with digests off.  (Digests are base32 SHA-1 strings: not empty, not the CDX placeholder.) -/
theorem revisit_needs_payload_identity (old new : Option Str)
    (hold : ∀ s, old = some s → s ≠ []) (hnew : ∀ s, new = some s → s ≠ lit "-")
    (hit : revisitHit old new = true) : ∃ s, old = some s ∧ new = some s := by
  unfold revisitHit cdxDigest lookupDigest at hit
  cases old with
  | none =>
    cases new with
    | none => simp [lit] at hit
    | some n => simp at hit; exact absurd hit.symm (hnew n rfl)
  | some o =>
    cases new with
    | none => simp at hit; exact absurd hit (hold o rfl)
    | some n => simp at hit; exact ⟨o, rfl, by rw [hit]⟩

example : revisitHit none none = false ∧ revisitHit (some (lit "ABC")) none = false ∧
    revisitHit none (some (lit "ABC")) = false ∧ revisitHit (some (lit "ABC")) (some (lit "ABC")) = true := by
  repeat rw [lit_ofList]
  decide +kernel

/-- a line as `readline` returns it: no LF but the final one -/
def IsLine (l : Bytes) : Prop := ∃ b, l = b ++ [10] ∧ 10 ∉ b

theorem splitLF_line {l : Bytes} (hl : IsLine l) (rest : Bytes) : splitLF (l ++ rest) = (l, rest) := by
  obtain ⟨b, rfl, hb⟩ := hl
  have hf : findLF (b ++ 10 :: rest) = some b.length := by
    simp [findLF_append_none (findLF_eq_none.mpr hb), findLF]
  simp [splitLF, hf, List.take_append, List.take_of_length_le]

/-- the end-of-header test of the recorder: only `\r\n` and `\n` are empty lines; a
whitespace-only line (` \r\n`, `\t\n`, `\r\r\n`, …) is not -/
def IsEmptyLine (l : Bytes) : Prop := l = [13, 10] ∨ l = [10]

theorem IsEmptyLine.isLine {e : Bytes} (he : IsEmptyLine e) : IsLine e := by
  rcases he with rfl | rfl
  · exact ⟨[13], rfl, by simp⟩
  · exact ⟨[], rfl, by simp⟩

theorem isEmptyLine_iff {l : Bytes} : (l == [13, 10] || l == [10]) = true ↔ IsEmptyLine l := by
  simp [IsEmptyLine]

theorem payloadOffset_go_step {l : Bytes} (hl : IsLine l) (rest : Bytes) (fuel off : Nat) :
    payloadOffset.go (fuel + 1) (l ++ rest) off =
      if l == [13, 10] || l == [10] then off + l.length else payloadOffset.go fuel rest (off + l.length) := by
  have hne : (l ++ rest).isEmpty = false := by obtain ⟨b, rfl, _⟩ := hl; simp
  simp only [payloadOffset.go, hne, splitLF_line hl, Bool.false_eq_true, if_false]

theorem payloadOffset_go_lines {ls : List Bytes} (hls : ∀ l ∈ ls, IsLine l ∧ ¬ IsEmptyLine l) {e : Bytes}
    (he : IsEmptyLine e) (rest : Bytes) (fuel off : Nat) (hf : (ls.flatten ++ (e ++ rest)).length ≤ fuel) :
    payloadOffset.go (fuel + 1) (ls.flatten ++ (e ++ rest)) off = off + (ls.flatten ++ e).length := by
  induction ls generalizing fuel off with
  | nil =>
    rw [List.flatten_nil, List.nil_append, payloadOffset_go_step he.isLine, if_pos (isEmptyLine_iff.mpr he)]
    rfl
  | cons l t ih =>
    obtain ⟨⟨hl, hne⟩, hls'⟩ := List.forall_mem_cons.1 hls
    have hpos : 0 < l.length := by obtain ⟨b, rfl, _⟩ := hl; simp
    rw [List.flatten_cons, List.append_assoc] at hf ⊢
    rw [List.length_append] at hf
    obtain ⟨f, rfl⟩ := Nat.exists_eq_add_one.mpr (show 0 < fuel by omega)
    rw [payloadOffset_go_step hl, if_neg (mt isEmptyLine_iff.mp hne),
      ih hls' f _ (by omega)]
    simp only [List.length_append, Nat.add_assoc]

/-- **C04 `payloadOffset_first_empty_line`.**  For a recorded block that consists of lines `ls` none of
which is empty — whitespace-only lines such as `b' \r\n'` included —, then an empty line `e`, then
anything: `_find_payload_offset` is the position right after that first empty line, so a revisit block
is the header block through its terminating empty line. -/
theorem payloadOffset_first_empty_line (ls : List Bytes) (e rest : Bytes)
    (hls : ∀ l ∈ ls, IsLine l ∧ ¬ IsEmptyLine l) (he : IsEmptyLine e) :
    payloadOffset (ls.flatten ++ e ++ rest) = (ls.flatten ++ e).length ∧
    revisitBlock (ls.flatten ++ e ++ rest) = ls.flatten ++ e := by
  have hp : payloadOffset (ls.flatten ++ e ++ rest) = (ls.flatten ++ e).length := by
    rw [List.append_assoc, payloadOffset, payloadOffset_go_lines hls he rest _ 0 (Nat.le_refl _), Nat.zero_add]
  rw [revisitBlock, hp]
  exact ⟨rfl, List.take_left' rfl⟩

/-- a whitespace-only line does not end the header block -/
example : revisitBlock (lit "HTTP/1.1 200 OK\r\nX-A: 1\r\n \r\nContent-Length: 4\r\n\r\nbody") =
    lit "HTTP/1.1 200 OK\r\nX-A: 1\r\n \r\nContent-Length: 4\r\n\r\n" := by
  repeat rw [lit_ofList]
  decide +kernel
example : IsLine (lit " \r\n") ∧ ¬ IsEmptyLine (lit " \r\n") := ⟨⟨lit " \r", rfl, by decide⟩, by unfold IsEmptyLine; decide⟩

example : revisitBlock (lit "HTTP/1.1 200 OK\nX: a\n b\n\nbody\n\nmore") = lit "HTTP/1.1 200 OK\nX: a\n b\n\n" := by
  repeat rw [lit_ofList]
  decide +kernel

example : revisitBlock (decode idDecoder {} {} [] exMsg).notified = exMsg.bytes.take 38 := by
  rw [exMsg]; repeat rw [lit_ofList]
  decide +kernel

example : (decode idDecoder {} {} [0] exChunked).notified = exChunked.bytes := by
  rw [exChunked]; repeat rw [lit_ofList]
  decide +kernel

example : (decode idDecoder {} {} [] exMsg).notified = exMsg.bytes.take 40 ∧
    (decode idDecoder {} {} [] exMsg).consumed = 41 := by
  rw [exMsg]; repeat rw [lit_ofList]
  decide +kernel

example : (record (exchangeEvents [lit "GET / HTTP/1.1\r\n\r\n"] (decode idDecoder {} {} [] exMsg) (lit "HTTP"))).request
    = [lit "GET / HTTP/1.1\r\n\r\n"] := by
  rw [request_block_is_bytes_written, List.flatten_singleton]

end Wpull.HttpWire
