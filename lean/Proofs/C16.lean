/-
C16 — Every HTTP request on the wire matches the URL being fetched.
Property theorems over the model `Wpull.Request`: the serialised request (`request_shape`), then every
hop of every redirect chain, by the induction over the session loop of `Proofs/Lemmas/WebSession.lean`.
What the fields of a request hold is stated throughout as an equation on `vals`, one per operation.
-/
import Proofs.Lemmas.WebSession
import Proofs.Lemmas.Lit
import Proofs.Lemmas.Py
namespace Wpull.Request

def NoBreak (s : List Nat) : Prop := 13 ∉ s ∧ 10 ∉ s

/-- no CR, LF, SP and latin-1 encodable: what canonical URL components are made of
(C10 proves the stronger 0x21..0x7e / ASCII-without-whitespace facts) -/
def Clean (s : List Nat) : Prop := ∀ c ∈ s, c ≠ 13 ∧ c ≠ 10 ∧ c ≠ 32 ∧ c < 256

instance (s : List Nat) : Decidable (Clean s) := by unfold Clean; infer_instance
instance (s : List Nat) : Decidable (NoBreak s) := by unfold NoBreak; infer_instance

theorem noBreak_iff {s : List Nat} : NoBreak s ↔ ∀ c ∈ s, c ≠ 13 ∧ c ≠ 10 :=
  ⟨fun h _ hc => ⟨fun e => h.1 (e ▸ hc), fun e => h.2 (e ▸ hc)⟩, fun h => ⟨fun m => (h 13 m).1 rfl, fun m => (h 10 m).2 rfl⟩⟩

theorem NoBreak.append {a b : List Nat} (ha : NoBreak a) (hb : NoBreak b) : NoBreak (a ++ b) :=
  ⟨fun m => (List.mem_append.mp m).elim ha.1 hb.1, fun m => (List.mem_append.mp m).elim ha.2 hb.2⟩

theorem Clean.append {a b : List Nat} (ha : Clean a) (hb : Clean b) : Clean (a ++ b) :=
  fun c hc => (List.mem_append.mp hc).elim (ha c) (hb c)

theorem Clean.nil : Clean [] := nofun

theorem Clean.noBreak {s : List Nat} (h : Clean s) : NoBreak s :=
  noBreak_iff.mpr fun c hc => ⟨(h c hc).1, (h c hc).2.1⟩

theorem Clean.count32 {s : List Nat} (h : Clean s) : s.count 32 = 0 :=
  List.count_eq_zero.mpr (fun m => (h 32 m).2.2.1 rfl)

theorem Clean.latin1 {s : List Nat} (h : Clean s) : latin1Strict s = .ok s := by
  rw [latin1Strict, if_pos (List.all_eq_true.mpr fun c hc => decide_eq_true (h c hc).2.2.2)]

theorem ite_of {α : Type} {P : α → Prop} {c : Prop} [Decidable c] {a b : α} (ha : P a) (hb : P b) :
    P (if c then a else b) :=
  iteInduction (fun _ => ha) (fun _ => hb)

theorem natToDec_eq (n : Nat) : natToDec n = natDec n := by
  have : ∀ f n acc, decGo f n acc = natDecAux f n acc := by
    intro f
    induction f with
    | zero => intros; rfl
    | succ f ih => intro n acc; by_cases h : n < 10 <;> simp [decGo, natDecAux, ih, h, Nat.mod_eq_of_lt]
  exact this _ _ _

theorem natToDec_clean (n : Nat) : Clean (natToDec n) := fun c hc => by
  have := (natDec_digits n).2 c (natToDec_eq n ▸ hc)
  omega

/-- the parsed URL is canonical: every component is free of CR, LF, SP (hypothesis; C10).  Of the user-info
the normalised form only, which is what `urlStr` prints. -/
structure CanonUrl (u : UrlC) : Prop where
  scheme : Clean u.scheme
  hostname : Clean u.hostname
  path : Clean u.path
  pathNonempty : u.path ≠ []
  query : Clean u.query
  normUser : Clean u.normUser
  normPass : Clean u.normPass

theorem hostBracket_clean {u : UrlC} (h : CanonUrl u) : Clean (hostBracket u) :=
  ite_of (Clean.append (Clean.append (by decide) h.hostname) (by decide)) h.hostname

theorem hostnameWithPort_clean {u : UrlC} (h : CanonUrl u) : Clean (hostnameWithPort u) := by
  unfold hostnameWithPort
  split
  · exact Clean.nil
  · exact ite_of (Clean.append (Clean.append (hostBracket_clean h) (by decide)) (natToDec_clean _)) (hostBracket_clean h)

theorem urlStr_clean {u : UrlC} (h : CanonUrl u) : Clean (urlStr u) :=
  h.scheme.append (by decide)
    |>.append (ite_of h.normUser Clean.nil)
    |>.append (ite_of (Clean.append (by decide) h.normPass) Clean.nil)
    |>.append (ite_of (by decide) Clean.nil)
    |>.append (hostBracket_clean h)
    |>.append (ite_of (Clean.append (by decide) (natToDec_clean _)) Clean.nil)
    |>.append h.path
    |>.append (ite_of (Clean.append (by decide) h.query) Clean.nil)

theorem target_clean {u : UrlC} (h : CanonUrl u) (full : Bool) : Clean (target u full) :=
  ite_of (urlStr_clean h) (ite_of (Clean.append (Clean.append h.path (by decide)) h.query) h.path)

def FieldsOk (f : Fields) : Prop := ∀ p ∈ getAll f, NoBreak p.1 ∧ NoBreak p.2 ∧ p.1 ≠ []

theorem getAll_cons (e : Str × List Str) (t : Fields) :
    getAll (e :: t) = e.2.map (fun v => (e.1, v)) ++ getAll t := by
  simp [getAll]

theorem mem_getAll_setRaw {f : Fields} {n v : Str} {p : Str × Str} (h : p ∈ getAll (setRaw f n v)) :
    p ∈ getAll f ∨ p = (n, v) := by
  induction f with
  | nil => simpa [setRaw, getAll] using h
  | cons e t ih =>
    unfold setRaw at h
    split at h <;> simp only [getAll_cons, List.mem_append] at h ⊢
    · rcases h with h | h
      · exact Or.inr (by simpa using h)
      · exact Or.inl (Or.inr h)
    · rcases h with h | h
      · exact Or.inl (Or.inl h)
      · exact (ih h).imp_left Or.inr

theorem FieldsOk.setField {f : Fields} {name v : Str} (hf : FieldsOk f) (hn : NoBreak (title name))
    (hn0 : title name ≠ []) (hv : NoBreak v) : FieldsOk (setField f name v) := by
  intro p hp
  rcases mem_getAll_setRaw hp with hp | rfl
  · exact hf p hp
  · exact ⟨hn, hv, hn0⟩

theorem latin1Replace_noBreak {s : Str} (h : NoBreak s) : NoBreak (latin1Replace s) := by
  rw [noBreak_iff] at h ⊢
  intro c' hc'
  obtain ⟨c, hc, rfl⟩ := List.mem_map.mp hc'
  split
  · exact h c hc
  · decide

theorem pairStr_noBreak {n v : Str} (hn : NoBreak n) (hv : NoBreak v) : NoBreak (pairStr n v) := by
  unfold pairStr
  split
  · exact hn.append (by decide)
  · exact (hn.append (by decide)).append hv

theorem pairStr_nonempty (n v : Str) (hn : n ≠ []) : pairStr n v ≠ [] := by
  unfold pairStr; split <;> simp [hn]

theorem latin1Replace_fieldsToStr (f : Fields) :
    latin1Replace (fieldsToStr f)
      = ((getAll f).map (fun p => latin1Replace (pairStr p.1 p.2))).flatMap (· ++ [13, 10]) := by
  unfold fieldsToStr latin1Replace
  rw [List.flatMap_map, List.map_flatMap]
  simp

theorem latin1Strict_ok {s : Str} {b : Bytes} (h : latin1Strict s = .ok b) : b = s := by
  unfold latin1Strict at h
  split at h <;> cases h
  rfl

theorem toBytes_ok {r : Req} {b : Bytes} (h : toBytes r = .ok b) :
    b = requestLine r ++ [13, 10] ++ latin1Replace (fieldsToStr r.fields) ++ [13, 10] := by
  unfold toBytes at h
  split at h
  · cases h
  · split at h
    · cases h
    · rename_i hl
      cases h
      rw [latin1Strict_ok hl]

/-- If the URL components are canonical, method and version are non-empty and `Clean`, and the field names/values
hold no line break: the bytes written are `request-line CRLF (field-line CRLF)* CRLF`; the request line is
`method SP target SP version` and holds exactly two spaces; neither it nor any field line holds a CR or LF, and
no field line is empty (so the first empty line is the end of the head).  Origin form and absolute form alike. -/
theorem request_shape (r : Req) (full : Bool) (b : Bytes)
    (hm : Clean r.method) (hm0 : r.method ≠ []) (hv : Clean r.version) (hv0 : r.version ≠ [])
    (hu : CanonUrl r.url) (hf : FieldsOk r.fields)
    (h : toBytes (prepareForSend r full) = .ok b) :
    ∃ (line : Bytes) (lines : List Bytes),
      b = line ++ [13, 10] ++ lines.flatMap (· ++ [13, 10]) ++ [13, 10] ∧
      line = r.method ++ [32] ++ target r.url full ++ [32] ++ r.version ∧
      line.count 32 = 2 ∧ 13 ∉ line ∧ 10 ∉ line ∧
      ∀ l ∈ lines, 13 ∉ l ∧ 10 ∉ l ∧ l ≠ [] := by
  have ht := target_clean hu full
  have sp : NoBreak [32] := by decide
  have hnb := (((hm.noBreak.append sp).append ht.noBreak).append sp).append hv.noBreak
  have hf' : FieldsOk (prepareForSend r full).fields := by
    have hHost : NoBreak (title (lit "Host")) ∧ title (lit "Host") ≠ [] := by rw [lit_ofList]; decide
    unfold prepareForSend
    split
    · exact hf
    · exact hf.setField hHost.1 hHost.2 (hostnameWithPort_clean hu).noBreak
  refine ⟨_, (getAll (prepareForSend r full).fields).map (fun p => latin1Replace (pairStr p.1 p.2)),
    by rw [toBytes_ok h, latin1Replace_fieldsToStr]; rfl, rfl, ?_, hnb.1, hnb.2, ?_⟩
  · simp [List.count_append, hm.count32, ht.count32, hv.count32]
  · intro l hl
    obtain ⟨p, hp, rfl⟩ := List.mem_map.mp hl
    obtain ⟨h1, h2, h3⟩ := hf' p hp
    have := latin1Replace_noBreak (pairStr_noBreak h1 h2)
    exact ⟨this.1, this.2, fun e => pairStr_nonempty _ _ h3 (List.map_eq_nil_iff.mp e)⟩

def exUrl : UrlC :=
  { scheme := lit "http", hostname := lit "h", port := 8080, ipv6 := false, path := lit "/a%20b", query := lit "c+d",
    username := [], password := [], normUser := [], normPass := [] }

def exReq : Req :=
  { method := lit "GET", resourcePath := [], version := lit "HTTP/1.1", fields := [(lit "User-Agent", [lit "x"])],
    url := exUrl, username := [], password := [] }

example : toBytes (prepareForSend exReq false)
    = .ok (lit "GET /a%20b?c+d HTTP/1.1\r\nUser-Agent: x\r\nHost: h:8080\r\n\r\n") := by
  rw [lit_ofList]; decide +kernel

/-- Without a proxy the request target is the URL's normalised path, followed by `?` and the query
when there is one; with a proxy it is the absolute URL. -/
theorem target_is_path_query (r : Req) :
    (prepareForSend r false).resourcePath = (if r.url.query ≠ [] then r.url.path ++ [63] ++ r.url.query else r.url.path) ∧
    (prepareForSend r true).resourcePath = urlStr r.url := ⟨rfl, rfl⟩

/-- the values under the key `m`, a name already normalised (`getList_eq`) -/
def vals (f : Fields) (m : Str) : List Str := (lookup f m).getD []

theorem getList_eq (f : Fields) (name : Str) : getList f name = vals f (title name) := rfl

theorem vals_nil (m : Str) : vals [] m = [] := rfl

theorem vals_cons (e : Str × List Str) (t : Fields) (m : Str) :
    vals (e :: t) m = if e.1 = m then e.2 else vals t m := by
  simp only [vals, lookup]; split <;> rfl

theorem vals_setRaw (f : Fields) (n v m : Str) :
    vals (setRaw f n v) m = if n = m then [v] else vals f m := by
  induction f with
  | nil => rw [setRaw, vals_cons, vals_nil]
  | cons e t ih =>
    by_cases he : e.1 = n <;> by_cases hm : n = m <;> (try subst hm) <;> simp [setRaw, vals_cons, *]

theorem vals_addRaw (f : Fields) (n v m : Str) :
    vals (addRaw f n v) m = if n = m then vals f m ++ [v] else vals f m := by
  induction f with
  | nil => rw [addRaw, vals_cons, vals_nil]; rfl
  | cons e t ih =>
    by_cases he : e.1 = n <;> by_cases hm : n = m <;> (try subst hm) <;> simp [addRaw, vals_cons, *]

theorem vals_filter (f : Fields) (n m : Str) :
    vals (f.filter (fun e => e.1 ≠ n)) m = if n = m then [] else vals f m := by
  induction f with
  | nil => simp [vals_nil]
  | cons e t ih =>
    by_cases he : e.1 = n
    · rw [List.filter_cons_of_neg (by simpa using he), ih, vals_cons, he]
      split <;> rfl
    · rw [List.filter_cons_of_pos (by simpa using he), vals_cons, ih, vals_cons]
      -- `m` is not both `e.1` and `n`
      by_cases hm : n = m
      · simp only [if_pos hm, if_neg (hm ▸ he)]
      · simp only [if_neg hm]

theorem hasField_iff (f : Fields) (name : Str) : hasField f name = true ↔ vals f (title name) ≠ [] := by
  unfold hasField getField vals
  cases hl : lookup f (title name) with
  | none => simp
  | some l => cases l <;> simp

theorem vals_setField (f : Fields) (name v m : Str) :
    vals (setField f name v) m = if title name = m then [v] else vals f m := vals_setRaw ..

theorem vals_addField (f : Fields) (name v m : Str) :
    vals (addField f name v) m = if title name = m then vals f m ++ [v] else vals f m := vals_addRaw ..

theorem vals_popField (f : Fields) (name m : Str) :
    vals (popField f name) m = if title name = m then [] else vals f m := by
  unfold popField
  split
  · exact vals_filter ..
  · -- nothing to pop: there are no values under the name
    rename_i h
    split
    · rename_i hm
      simpa [hasField_iff, hm] using h
    · rfl

theorem vals_foldl_add (name : Str) (m : Str) : ∀ (vs : List Str) (f : Fields),
    vals (vs.foldl (fun g v => addField g name v) f) m = if title name = m then vals f m ++ vs else vals f m
  | [], f => by simp
  | v :: t, f => by rw [List.foldl_cons, vals_foldl_add name m t, vals_addField]; split <;> simp

/-- the fold of `resetUrlBound` (`_reset_url_bound_fields`), over any list of names -/
theorem vals_reset (cfg : Cfg) (m : Str) : ∀ (names : List Str) (f : Fields),
    vals (names.foldl (fun f name =>
        (getList cfg.factoryFields name).foldl (fun g v => addField g name v) (popField f name)) f) m
      = if m ∈ names.map title then vals cfg.factoryFields m else vals f m
  | [], f => by simp
  | name :: rest, f => by
    rw [List.foldl_cons, vals_reset cfg m rest, vals_foldl_add, vals_popField, getList_eq]
    by_cases h : title name = m
    · simp [← h]
    · simp [h, Ne.symm h]

theorem vals_prepareForSend (r : Req) (full : Bool) (m : Str) :
    vals (prepareForSend r full).fields m =
      if title (lit "Host") = m ∧ vals r.fields (title (lit "Host")) = [] then [hostnameWithPort r.url]
      else vals r.fields m := by
  unfold prepareForSend
  by_cases hh : hasField r.fields (lit "Host") = true
  · simp only [if_pos hh]
    rw [if_neg fun h => (hasField_iff _ _).mp hh h.2]
  · have : vals r.fields (title (lit "Host")) = [] := Decidable.byContradiction fun hv => hh ((hasField_iff _ _).mpr hv)
    simp only [if_neg hh, vals_setField, this, and_true]

theorem vals_prepareForSend_of_ne (r : Req) (full : Bool) {m : Str} (hm : title (lit "Host") ≠ m) :
    vals (prepareForSend r full).fields m = vals r.fields m := by
  rw [vals_prepareForSend, if_neg fun h => hm h.1]

theorem vals_resetUrlBound (cfg : Cfg) (r : Req) (m : Str) :
    vals (resetUrlBound cfg r).fields m =
      if m ∈ urlBoundFields.map title then vals cfg.factoryFields m else vals r.fields m := vals_reset ..

theorem hopReq_url (cfg : Cfg) (orig : Req) (st : Nat) (u : UrlC) : (hopReq cfg orig st u).url = u := by
  unfold hopReq; split <;> rfl

theorem host_ne :
    title (lit "Host") ≠ title (lit "Authorization") ∧ title (lit "Host") ≠ title (lit "Cookie") ∧
    title (lit "Host") ≠ title (lit "Cookie2") := by
  rw [lit_ofList, lit_ofList, lit_ofList, lit_ofList]; decide +kernel

theorem vals_hopReq (cfg : Cfg) (orig : Req) (st : Nat) (u : UrlC) {name : Str} (hn : name ∈ urlBoundFields) :
    vals (hopReq cfg orig st u).fields (title name) =
      if title (lit "Host") = title name ∧ vals cfg.factoryFields (title (lit "Host")) = [] then [hostnameWithPort u]
      else vals cfg.factoryFields (title name) := by
  have hH : title (lit "Host") ∈ urlBoundFields.map title := List.mem_map_of_mem (by simp [urlBoundFields])
  unfold hopReq
  rw [vals_prepareForSend]
  by_cases hrep : isRepeatCode st = true
  · simp only [if_pos hrep, vals_resetUrlBound, if_pos (List.mem_map_of_mem hn), if_pos hH]; rfl
  · simp only [if_neg hrep]; rfl

theorem vals_hopReq_of_ne {cfg : Cfg} {orig : Req} {st : Nat} {u : UrlC} {name : Str} (hn : name ∈ urlBoundFields)
    (hne : title (lit "Host") ≠ title name) :
    vals (hopReq cfg orig st u).fields (title name) = vals cfg.factoryFields (title name) :=
  (vals_hopReq cfg orig st u hn).trans (if_neg fun h => hne h.1)

theorem vals_hopReq_host {cfg : Cfg} {orig : Req} {st : Nat} {u : UrlC}
    (hH : vals cfg.factoryFields (title (lit "Host")) = []) :
    vals (hopReq cfg orig st u).fields (title (lit "Host")) = [hostnameWithPort u] :=
  (vals_hopReq cfg orig st u (by simp [urlBoundFields])).trans (if_pos ⟨rfl, hH⟩)

/-- In any session state — whatever earlier hops, hosts, credentials and cookies it has seen — the request that
`_process_redirect` builds for the next URL `u` (new for 301/302/303, the original replayed for 307/308) carries
under Authorization / Cookie / Cookie2 nothing of an earlier hop: exactly what the request factory configures for
every request; and when no Host is configured, the one Host value `hostname_with_port(u)`. -/
theorem fresh_hop_fields (cfg : Cfg) (s s' : Sess) (st : Nat) (hasLoc : Bool) (u : UrlC)
    (h : processRedirect cfg s st hasLoc (.url u) = .ok s') :
    ∃ req, s'.cur = some req ∧ req.url = u ∧
      getList req.fields (lit "Authorization") = getList cfg.factoryFields (lit "Authorization") ∧
      getList req.fields (lit "Cookie") = getList cfg.factoryFields (lit "Cookie") ∧
      getList req.fields (lit "Cookie2") = getList cfg.factoryFields (lit "Cookie2") ∧
      (getList cfg.factoryFields (lit "Host") = [] → getList req.fields (lit "Host") = [hostnameWithPort u]) := by
  obtain ⟨-, -, u', hu, rfl⟩ := processRedirect_ok h
  cases hu
  exact ⟨_, rfl, hopReq_url ..,
    vals_hopReq_of_ne (by simp [urlBoundFields]) host_ne.1,
    vals_hopReq_of_ne (by simp [urlBoundFields]) host_ne.2.1,
    vals_hopReq_of_ne (by simp [urlBoundFields]) host_ne.2.2,
    vals_hopReq_host⟩

/-- the credentials `_add_basic_auth_header` uses: the URL's user-info, else the request's login -/
def userOf (r : Req) : Str := if r.url.username ≠ [] then r.url.username else r.username
def passOf (r : Req) : Str := if r.url.password ≠ [] then r.url.password else r.password

def AuthOk (cfg : Cfg) (r : Req) : Prop :=
  getList r.fields (lit "Authorization") = getList cfg.factoryFields (lit "Authorization") ∨
  getList r.fields (lit "Authorization") = [cfg.auth (userOf r) (passOf r)]

def HopOk (cfg : Cfg) (r : Req) : Prop :=
  getList r.fields (lit "Host") = [hostnameWithPort r.url] ∧ AuthOk cfg r

/-- a request before `sendPrep`; it may have its Host already, since `_process_redirect` prepares the next hop.
`HopOk` is the request as sent. -/
def Pending (cfg : Cfg) (r : Req) : Prop :=
  (getList r.fields (lit "Host") = [] ∨ getList r.fields (lit "Host") = [hostnameWithPort r.url]) ∧ AuthOk cfg r

theorem HopOk.pending {cfg : Cfg} {r : Req} (h : HopOk cfg r) : Pending cfg r := ⟨Or.inr h.1, h.2⟩

theorem addBasicAuth_eq (cfg : Cfg) (r : Req) :
    addBasicAuth cfg r =
      if userOf r ≠ [] ∧ passOf r ≠ [] then
        { r with fields := setField r.fields (lit "Authorization") (cfg.auth (userOf r) (passOf r)) }
      else r := rfl

theorem addBasicAuth_eq_with (cfg : Cfg) (r : Req) :
    addBasicAuth cfg r = { r with fields := (addBasicAuth cfg r).fields } := by
  rw [addBasicAuth_eq]; split <;> rfl

theorem sendPrep_eq_with (cfg : Cfg) (s : Sess) (r : Req) :
    sendPrep cfg s r = { r with fields := (sendPrep cfg s r).fields,
                                resourcePath := target r.url (cfg.proxy && r.url.scheme = lit "http") } := by
  unfold sendPrep prepareForSend
  split
  · rw [addBasicAuth_eq_with]
  · rfl

theorem addBasicAuth_pending (cfg : Cfg) (r : Req) (h : Pending cfg r) : Pending cfg (addBasicAuth cfg r) := by
  rw [addBasicAuth_eq]
  split
  · refine ⟨?_, Or.inr ?_⟩
    · simpa only [getList_eq, vals_setField, if_neg (Ne.symm host_ne.1)] using h.1
    · simp only [getList_eq, vals_setField, if_true]; rfl
  · exact h

theorem prepareForSend_hopOk (cfg : Cfg) (r : Req) (full : Bool) (h : Pending cfg r) : HopOk cfg (prepareForSend r full) := by
  obtain ⟨hh, ha⟩ := h
  refine ⟨?_, ?_⟩
  · show vals (prepareForSend r full).fields (title (lit "Host")) = [hostnameWithPort r.url]
    rw [vals_prepareForSend]
    rcases hh with hh | hh <;> simp [← getList_eq, hh]
  · unfold AuthOk
    rw [getList_eq, vals_prepareForSend_of_ne _ _ host_ne.1]
    exact ha

theorem sendPrep_hopOk (cfg : Cfg) (s : Sess) (r : Req) (h : Pending cfg r) : HopOk cfg (sendPrep cfg s r) := by
  unfold sendPrep
  split
  · exact prepareForSend_hopOk cfg _ _ (addBasicAuth_pending cfg r h)
  · exact prepareForSend_hopOk cfg _ _ h

theorem hopReq_pending (cfg : Cfg) (hH : getList cfg.factoryFields (lit "Host") = []) (orig : Req) (st : Nat) (u : UrlC) :
    Pending cfg (hopReq cfg orig st u) := by
  refine ⟨Or.inr ?_, Or.inl (vals_hopReq_of_ne (by simp [urlBoundFields]) host_ne.1)⟩
  rw [hopReq_url]
  exact vals_hopReq_host hH

/-- "Exactly one Host" and "no cross-host credentials" (DESIGN.md C16, T), for sessions without a cookie jar: on
every hop of every redirect chain (all five codes, any server strategy, any limits) the values under `Host` are
exactly `[hostname_with_port(hop URL)]`, and those under `Authorization` are the configured ones or the
basic-auth text of this hop's own URL user-info / login, never those of another hop.  Hypotheses: no Host field
is configured (factory or first request) and the first request's Authorization values are the configured ones. -/
theorem every_hop_host_and_credentials (cfg : Cfg) (hj : cfg.useJar = false)
    (hH : getList cfg.factoryFields (lit "Host") = []) (adv : List Req → Reply) (r : Req)
    (hr : getList r.fields (lit "Host") = [])
    (ha : getList r.fields (lit "Authorization") = getList cfg.factoryFields (lit "Authorization")) :
    ∀ h ∈ (session cfg adv r).sent,
      getList h.fields (lit "Host") = [hostnameWithPort h.url] ∧ AuthOk cfg h :=
  session_sent_closed (J := Pending cfg) (K := HopOk cfg) (first := ⟨Or.inl hr, Or.inl ha⟩)
    (send := sendPrep_hopOk cfg) (keeps := fun _ => HopOk.pending)
    (hop := fun orig st u _ => hopReq_pending cfg hH orig st u)
    (auth := addBasicAuth_pending cfg)
    (jar := fun hj' => nomatch hj.symm.trans hj')

theorem b64Char_ge (n : Nat) : 43 ≤ b64Char n :=
  ite_of (Nat.le_add_right_of_le (by decide)) <| ite_of (Nat.le_add_right_of_le (by decide)) <|
    ite_of (Nat.le_add_right_of_le (by decide)) <| ite_of (by decide) (by decide)

theorem b64_ge : ∀ (b : Bytes), ∀ c ∈ b64 b, 43 ≤ c
  | [] => nofun
  | [_] | [_, _] => by simp only [b64, List.forall_mem_cons, b64Char_ge, true_and]; decide
  | a :: b :: c :: t => by
    simp only [b64, List.cons_append, List.nil_append, List.forall_mem_cons, b64Char_ge, true_and]
    exact b64_ge t

theorem b64_noBreak (b : Bytes) : NoBreak (b64 b) :=
  noBreak_iff.mpr fun c hc => by have := b64_ge b c hc; omega

/-- For every user name and password (any length, any characters) the Authorization text `Basic <base64>` holds
no CR and no LF: the credentials field meets the hypothesis of `request_shape` on field values. -/
theorem basic_auth_single_line (user pass : Str) : NoBreak (basicAuth user pass) :=
  NoBreak.append (by rw [lit_ofList]; decide) (b64_noBreak _)

/-- 60 bytes of credentials, where a line-wrapping encoder would break the line -/
example : (basicAuth (List.replicate 40 117) (List.replicate 19 112)).length = 6 + 80 := by decide +kernel

/-- `prepare_for_send` may be called several times on one request (`_process_redirect` calls it in
origin form, `Stream.write_request` again with the connection's flag): the last call decides the
form of the target, and nothing else differs from a single call with that flag. -/
theorem prepareForSend_last_wins (r : Req) (a b : Bool) :
    prepareForSend (prepareForSend r a) b = prepareForSend r b := by
  have hset : ∀ v, hasField (setField r.fields (lit "Host") v) (lit "Host") = true := fun v => by
    rw [hasField_iff, vals_setField]; simp
  unfold prepareForSend
  by_cases hh : hasField r.fields (lit "Host") = true
  · simp [hh]
  · simp [hh, hset]

/-- On every hop of every chain (307/308 replays and authentication retries included, with or without cookie jar,
every server) the request target is the hop URL's path (+ ?query), or the absolute URL when the hop goes through
a (non-tunnelled) proxy; an earlier `prepare_for_send()` in origin form by `_process_redirect` does not stick. -/
theorem every_hop_target (cfg : Cfg) (adv : List Req → Reply) (r : Req) :
    ∀ h ∈ (session cfg adv r).sent,
      h.resourcePath = (if cfg.proxy && h.url.scheme = lit "http" then urlStr h.url
                        else if h.url.query ≠ [] then h.url.path ++ [63] ++ h.url.query else h.url.path) :=
  session_sent_closed (J := fun _ => True) (first := trivial)
    (send := fun s q _ => by rw [sendPrep_eq_with]; simp [target])
    (keeps := fun _ _ => trivial) (hop := fun _ _ _ _ => trivial) (auth := fun _ _ => trivial)
    (jar := fun _ _ _ _ => trivial)

def LoginOk (r q : Req) : Prop :=
  (q.username = r.username ∧ q.password = r.password) ∨ (q.username = [] ∧ q.password = [])

theorem hopReq_loginOk {r orig : Req} (cfg : Cfg) (st : Nat) (u : UrlC) (h : LoginOk r orig) :
    LoginOk r (hopReq cfg orig st u) := by
  unfold hopReq; split
  · exact h
  · exact Or.inr ⟨rfl, rfl⟩

/-- On every hop of every chain (with or without cookie jar) the request's login attributes — the
only credentials `_process_authentication` answers a 401 challenge with besides the hop URL's own user-info —
are those of the first request (the configured `--http-user` and `--http-password`, see `populateLogin`) or
empty, never taken from the URL of an earlier hop. -/
theorem every_hop_login_is_configured (cfg : Cfg) (adv : List Req → Reply) (r : Req) :
    ∀ h ∈ (session cfg adv r).sent,
      (h.username = r.username ∧ h.password = r.password) ∨ (h.username = [] ∧ h.password = []) :=
  session_sent_closed (J := LoginOk r) (K := LoginOk r) (first := Or.inl ⟨rfl, rfl⟩)
    (send := fun s q hq => by rw [sendPrep_eq_with]; exact hq) (keeps := fun _ hq => hq)
    (hop := fun _ => hopReq_loginOk cfg)
    (auth := fun q hq => by rw [addBasicAuth_eq_with]; exact hq)
    (jar := fun _ _ _ hq => hq)

/-- the processor never derives the login attributes from the URL -/
theorem populateLogin_ignores_url (r : Req) (u : UrlC) (l : Option (Str × Str)) :
    (populateLogin { r with url := u } l).username = (populateLogin r l).username ∧
    (populateLogin { r with url := u } l).password = (populateLogin r l).password := by
  cases l <;> exact ⟨rfl, rfl⟩

/-- Preparing and sending a request (`start()`: basic auth when due, `prepare_for_send`) writes into the request
object under Host and Authorization only, never `Proxy-Authorization`: the proxy's credentials belong to the
proxy hop (CONNECT / the connection pool), so a 307/308 replay (a deep copy of that object) has nothing of the
proxy to carry to an origin.  (That the pool keeps them out of tunnels and direct connections is checked on the
wire: oracle only.) -/
theorem send_writes_only_host_and_authorization (cfg : Cfg) (s : Sess) (r : Req) (m : Str)
    (h1 : m ≠ title (lit "Host")) (h2 : m ≠ title (lit "Authorization")) :
    vals (sendPrep cfg s r).fields m = vals r.fields m := by
  unfold sendPrep
  rw [vals_prepareForSend_of_ne _ _ (Ne.symm h1)]
  split
  · rw [addBasicAuth_eq]
    split
    · exact (vals_setField ..).trans (if_neg (Ne.symm h2))
    · rfl
  · rfl

example : title (lit "Proxy-Authorization") ≠ title (lit "Host") ∧
    title (lit "Proxy-Authorization") ≠ title (lit "Authorization") := by
  rw [lit_ofList, lit_ofList, lit_ofList]; decide +kernel

/-- `best` is what the scan returns if the text `l` still to come holds no `@`: then it must hold none -/
theorem afterLastAt_go_no_at : ∀ (l best : Str), (64 ∉ l → 64 ∉ best) → 64 ∉ afterLastAt.go l best
  | [], best, h => by unfold afterLastAt.go; exact h (by simp)
  | c :: t, best, h => by
    unfold afterLastAt.go
    split
    · exact afterLastAt_go_no_at t t (fun x => x)
    · rename_i hc
      exact afterLastAt_go_no_at t best fun ht => h (List.not_mem_cons_of_ne_of_not_mem (Ne.symm hc) ht)

/-- What `_strip_userinfo` puts in place of the authority of the referring URL (`afterLastAt`, see
`stripUserinfo`) holds no `@`, whatever the shape of the user-info (`user:pw@`, `user@`, `:token@` with an
empty user name, `:@`, `@`, several `@`). -/
theorem stripped_authority_has_no_at (authority : Str) : 64 ∉ afterLastAt authority :=
  afterLastAt_go_no_at authority authority (fun x => x)

/-- a token-style login with an empty user name is stripped -/
example : stripUserinfo (lit "http://:token@a.example/dir/?q=a@b") = lit "http://a.example/dir/?q=a@b" := by
  rw [lit_ofList, lit_ofList]; decide +kernel

/-- Sending a request adds no Authorization of its own unless the hop URL carries a password or the
hop's `hostname_with_port` is exactly one of the hosts that answered a 401 in this session
(`_hostnames_with_auth`, filled only by `_process_authentication`); a host whose name merely ends
with such a name (sub-domain, look-alike) gets nothing. -/
theorem no_preemptive_login_for_unchallenged_host (cfg : Cfg) (s : Sess) (r : Req)
    (hp : r.url.password = []) (hh : hostnameWithPort r.url ∉ s.hostsWithAuth) :
    vals (sendPrep cfg s r).fields (title (lit "Authorization")) = vals r.fields (title (lit "Authorization")) := by
  unfold sendPrep
  rw [if_neg fun h => h.elim (fun h => h hp) hh, vals_prepareForSend_of_ne _ _ host_ne.1]

def exUrlB : UrlC :=
  { scheme := lit "https", hostname := lit "b.example", port := 443, ipv6 := false, path := lit "/y", query := [],
    username := [], password := [], normUser := [], normPass := [] }

def exUrlA : UrlC :=
  { scheme := lit "http", hostname := lit "a.example", port := 80, ipv6 := false, path := lit "/x", query := [],
    username := lit "u", password := lit "p", normUser := lit "u", normPass := lit "p" }

def exCfg : Cfg :=
  { maxRedirects := 5, proxy := false, factoryFields := [(lit "User-Agent", [lit "ua"])], useJar := false,
    auth := basicAuth, jar := fun _ _ => none }

/-- through a proxy the 307 replay to an http URL carries the absolute URL -/
example :
    ((session { exCfg with proxy := true } (scriptAdv [.resp 307 true (.url { exUrlB with scheme := lit "http", port := 80 })])
        { exReq with url := exUrlA }).sent.map (·.resourcePath))
    = [lit "http://u:p@a.example/x", lit "http://b.example/y"] := by decide +kernel

/-- a 307 from `http://u:p@a.example/x` to `https://b.example/y`: the replayed
request names b.example and carries no credentials -/
example :
    ((session exCfg (scriptAdv [.resp 307 true (.url exUrlB)]) { exReq with url := exUrlA }).sent.map
      (fun h => (getList h.fields (lit "Host"), getList h.fields (lit "Authorization"))))
    = [([lit "a.example"], [lit "Basic dTpw"]), ([lit "b.example"], [])] := by decide +kernel

end Wpull.Request
