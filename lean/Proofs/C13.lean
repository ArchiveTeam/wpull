/-
C13 — The pipeline runs every item through every task once, and always finishes.
Property theorems over the model `Wpull.Pipeline` (repaired code: `Fix.all`).
-/
import Proofs.Lemmas.PipelineLog
import Proofs.Lemmas.PipelineTerm
namespace Wpull.Pipeline

theorem inv_reach {c : Cfg} (hfx : c.fx = Fix.all) {conc0 : Nat} {s : St} (hr : Reach c conc0 s) :
    Inv true c s ∧ InvLs c s := by
  induction hr with
  | init => exact ⟨inv_init true c conc0, invL_init c.K⟩
  | step a _ hs ih => exact ⟨inv_step hfx ih.1 hs, invL_step hfx ih.1 ih.2 hs⟩

/-- reachability over histories with several runs: `restart k m` = the source gets `m` fresh items,
`concurrency = k`, and `process()` is called again on the object that a returned run left behind.  The configuration is an index:
the refill changes `n`. -/
inductive ReachR (conc0 : Nat) : Cfg → St → Prop
  | init (c : Cfg) : ReachR conc0 c (initSt conc0)
  | step {c : Cfg} {s s' : St} (a : Act) : ReachR conc0 c s → step c s a = some s' → ReachR conc0 c s'
  | restart {c : Cfg} {s : St} (k m : Nat) : ReachR conc0 c s → s.main = .returned →
      ReachR conc0 { c with n := c.n + m } (restartSt c k s)

theorem restartSt_items_log (c : Cfg) (k : Nat) (s : St) :
    (restartSt c k s).items = s.items ∧ (restartSt c k s).log = s.log := by
  simp only [restartSt, mainLoop_eq, runSt, if_true, and_self]

theorem inv_reachR {conc0 : Nat} {c : Cfg} {s : St} (hr : ReachR conc0 c s) (hfx : c.fx = Fix.all) :
    Inv false c s ∧ InvLs c s := by
  induction hr with
  | init c => exact ⟨inv_init false c conc0, invL_init c.K⟩
  | step a _ hs ih =>
    have ih := ih hfx
    exact ⟨inv_step hfx ih.1 hs, invL_step hfx ih.1 ih.2 hs⟩
  | @restart c0 s0 k m _ hret ih =>
    have hfx0 : c0.fx = Fix.all := hfx
    have ih := ih hfx0
    have hil := restartSt_items_log c0 k s0
    refine ⟨inv_restart hfx0 k m ih.1 hret, ?_⟩
    simp only [InvLs, hil.1, hil.2]
    exact ih.2

theorem Reach.reachR {c : Cfg} {conc0 : Nat} {s : St} (hr : Reach c conc0 s) : ReachR conc0 c s := by
  induction hr with
  | init => exact .init c
  | step a _ hs ih => exact .step a ih hs

/-- the pipeline is paused on purpose: running with concurrency 0 -/
def paused (s : St) : Prop := s.pstate = .running ∧ s.conc = 0

/-- A quiescent state in which `process()` is pending is the idle pause and nothing else: running with concurrency 0,
`process()` asleep on the unpause event, no worker task left, nothing has failed. -/
theorem quiescent_pending {s : St} (h : InvN s) (hq : quiescent s = true) (hd : mainDone s = false) :
    paused s ∧ s.main = .waitUnpaused false ∧ s.wt = 0 ∧ s.failedItems = 0 ∧ s.prod ≠ .failed := by
  cases h
  simp only [quiescent, Bool.and_eq_true, Bool.not_eq_true', beq_iff_eq] at hq
  obtain ⟨⟨⟨hq1, hq2⟩, hq3⟩, hq4⟩ := hq
  have hb := countRun_zero hq4
  simp only [paused]
  destruct_st s
  simp only [St.qi, St.qsize, St.live, St.wt] at *
  -- By cases on the two pcs.  `waitAny false`, `shutWorkers false`: a worker is alive (`hany`, `hshw`) and, being neither
  -- ready nor busy, parked, so the queue is empty (`hget`); stopping there would be a pill for it (`hpill`); running, the
  -- producer could only be blocked behind a full queue (`hput`), waiting for unfinished items that do not exist (`hww`,
  -- `hunf`, `hfail`), or gone (`hpd`).  `waitProd false`: the producer has its cancellation to take (`hwp`).
  -- `waitUnpaused false` is the pause (`hunp'`, `hpause`), with no worker task left (`hunp`).
  rcases main with _ | w | w | w | w | _ | _ | _
  all_goals (try rcases w with _ | _)
  all_goals (try simp [mainReady, mainDone] at hq2 hd ⊢)
  all_goals (rcases prod with _ | _ | _ | b | b | _ | _ | _ | _)
  all_goals (try rcases b with _ | _)
  all_goals (try simp [prodReady] at hq1)
  all_goals grind

/-- **No hang in any run.**  `no_hang` for histories with any number of runs on the same object. -/
theorem no_hang_any_run {c : Cfg} (hfx : c.fx = Fix.all) {conc0 : Nat} {s : St} (hr : ReachR conc0 c s)
    (hq : quiescent s = true) (hp : ¬ paused s) : mainDone s = true := by
  cases hd : mainDone s
  · exact absurd (quiescent_pending (inv_reachR hr hfx).1.ctl hq hd).1 hp
  · rfl

/-- **No hang.**  In every reachable state of the repaired pipeline in which no coroutine can make a
step and no task / `get_item` call is outstanding (`quiescent`), `process()` has completed —
unless the pipeline is paused on purpose (running with concurrency 0, where it waits to be
unpaused).  With `no_infinite_internal_run` this is the "always finishes" half of C13. -/
theorem no_hang {c : Cfg} (hfx : c.fx = Fix.all) {conc0 : Nat} {s : St} (hr : Reach c conc0 s)
    (hq : quiescent s = true) (hp : ¬ paused s) : mainDone s = true :=
  no_hang_any_run hfx hr.reachR hq hp


/-- **Only source items.**  Every (task, item) event in the log is about an item the source
supplied: its index is below the number of items the source has, and it was taken before. -/
theorem only_source_items {c : Cfg} (hfx : c.fx = Fix.all) {conc0 : Nat} {s : St} (hr : Reach c conc0 s)
    (e : Ev) (he : e ∈ s.log) : e.item < c.n ∧ e.item < s.items.length := by
  obtain ⟨hi, hl⟩ := inv_reach hfx hr
  have hlt : e.item < s.items.length := Nat.lt_of_not_le fun h => by
    have := hl.hout e.item h
    simp only [proj, List.map_eq_nil_iff, List.filter_eq_nil_iff] at this
    exact this e he (by simp)
  exact ⟨Nat.lt_of_lt_of_le hlt hi.hist.taken_le, hlt⟩

/-- **Tasks in order, at most once — across runs.**  Over the whole history of an object (several runs), every
item's events are a prefix of start 0, end 0, …, start K, end K: an item left in the queue by a stopped run and
processed by the next run is still processed once. -/
theorem tasks_in_order_at_most_once_any_run {c : Cfg} (hfx : c.fx = Fix.all) {conc0 : Nat} {s : St}
    (hr : ReachR conc0 c s) (i : Nat) : proj i s.log <+: pre (c.K + 1) := by
  obtain ⟨_, hl⟩ := inv_reachR hr hfx
  rcases Nat.lt_or_ge i s.items.length with h | h
  · obtain ⟨h1, h2⟩ := hl.hin i _ (List.getElem?_eq_getElem h)
    rw [h1]; exact expected_prefix h2
  · rw [hl.hout i h]; exact List.nil_prefix

/-- **Tasks in order, at most once.**  In every reachable state the events of an item, in log order, are a
prefix of `start 0, end 0, start 1, end 1, …, start K, end K`: the item passes the tasks in order,
each task at most once, never two at a time. -/
theorem tasks_in_order_at_most_once {c : Cfg} (hfx : c.fx = Fix.all) {conc0 : Nat} {s : St}
    (hr : Reach c conc0 s) (i : Nat) : proj i s.log <+: pre (c.K + 1) :=
  tasks_in_order_at_most_once_any_run hfx hr.reachR i

/-- a run that returned without a stop request ended by exhaustion -/
theorem exhausted_of_returned {first : Bool} {c : Cfg} {s : St} (he : InvE s) (hh : InvH first c s)
    (hret : s.main = .returned) (hns : s.stopReq = false) :
    s.prod = .finished ∧ s.items.length = c.n ∧ s.unfinished = 0 ∧ s.items.countP isU = 0 := by
  obtain ⟨_, _, _, hst, hprod⟩ := he.e_ret hret
  have hfin : s.prod = .finished := by
    rcases hh.ended_unstopped hns (by simp [hst]) (by simp [hret]) with h | h
    · exact h
    · rcases hprod with h1 | h1 <;> simp [h] at h1
  obtain ⟨hlen, hunf⟩ := hh.exhausted hns hfin
  exact ⟨hfin, hlen, hunf, by rw [← hh.unfinished_eq]; exact hunf⟩

/-- **A run that is not stopped ends only by exhaustion — in every run.**  Over histories with any number of
`process()` calls on one object (the source possibly refilled between them): if the current run has returned and
no `stop()` was requested during it, every item of the source has been taken, nothing is unfinished, and every
item ever taken has passed every task exactly once — except an item that a cancelled producer of an earlier,
stopped run was holding (phase `held`: dropped; in wpull the URL stays `in_progress` until the next start). -/
theorem unstopped_run_exhausts_source {c : Cfg} (hfx : c.fx = Fix.all) {conc0 : Nat} {s : St}
    (hr : ReachR conc0 c s) (hret : s.main = .returned) (hns : s.stopReq = false) :
    s.items.length = c.n ∧ s.unfinished = 0 ∧
    ∀ i p, s.items[i]? = some p → (p = .held ∨ (p = .done ∧ proj i s.log = pre (c.K + 1))) := by
  obtain ⟨⟨_, he, hh⟩, hl⟩ := inv_reachR hr hfx
  obtain ⟨_, hlen, hunf, hu⟩ := exhausted_of_returned he hh hret hns
  refine ⟨hlen, hunf, fun i p hp => ?_⟩
  have hmem : p ∈ s.items := List.mem_of_getElem? hp
  have h1 := List.countP_eq_zero.mp hu p hmem
  cases p with
  | held => exact Or.inl rfl
  | done => exact Or.inr ⟨rfl, (hl.hin i _ hp).1⟩
  | queued | run k | failed k => simp [isU] at h1

/-- **Exactly once without a stop.**  If `process()` returned and no `stop()` was requested from
outside, the source was exhausted and every one of its `n` items went through all tasks in order
exactly once (its events are exactly `start 0, end 0, …, start K, end K`). -/
theorem exactly_once_without_stop {c : Cfg} (hfx : c.fx = Fix.all) {conc0 : Nat} {s : St}
    (hr : Reach c conc0 s) (hret : s.main = .returned) (hns : s.stopReq = false) :
    s.items.length = c.n ∧ ∀ i, i < c.n → proj i s.log = pre (c.K + 1) := by
  obtain ⟨⟨_, he, hh⟩, _⟩ := inv_reach hfx hr
  obtain ⟨hlen, _, hall⟩ := unstopped_run_exhausts_source hfx hr.reachR hret hns
  have hfin := (exhausted_of_returned he hh hret hns).1
  -- in the first run no item is left held
  have hheld : s.items.countP isH = 0 := hh.none_held rfl (by simp [hfin]) (by simp [hfin]) (by simp [hfin])
  refine ⟨hlen, fun i hi => ?_⟩
  have hi' : i < s.items.length := by omega
  rcases hall i _ (List.getElem?_eq_getElem hi') with h | h
  · have := List.countP_eq_zero.mp hheld _ (List.getElem_mem hi')
    simp [h, isH] at this
  · exact h.2

/-- **Returns when exhausted.**  Without a stop request and without a failure, every complete run
(nothing can move, nothing is outstanding) that is not paused on purpose has ended with
`process()` returned and all `n` items through all tasks exactly once. -/
theorem returns_when_exhausted {c : Cfg} (hfx : c.fx = Fix.all) {conc0 : Nat} {s : St}
    (hr : Reach c conc0 s) (hq : quiescent s = true) (hp : ¬ paused s)
    (hns : s.stopReq = false) (hnf : s.failedItems = 0) (hsf : s.srcFailed = false) :
    s.main = .returned ∧ s.items.length = c.n ∧ ∀ i, i < c.n → proj i s.log = pre (c.K + 1) := by
  have hd := no_hang hfx hr hq hp
  obtain ⟨⟨_, _, hh⟩, _⟩ := inv_reach hfx hr
  have hret : s.main = .returned := by
    cases hm : s.main <;> simp [mainDone, hm] at hd
    · rfl
    · rcases hh.raised_cause hm with h | h
      · omega
      · simp [hsf] at h
  exact ⟨hret, exactly_once_without_stop hfx hr hret hns⟩

theorem failure_raised_if_done {c : Cfg} (hfx : c.fx = Fix.all) {conc0 : Nat} {s : St}
    (hr : Reach c conc0 s) (hd : mainDone s = true)
    (hf : 0 < s.failedItems ∨ s.srcFailed = true) : s.main = .raised := by
  obtain ⟨⟨hn, he, hh⟩, _⟩ := inv_reach hfx hr
  cases hm : s.main <;> simp [mainDone, hm] at hd
  · exfalso
    obtain ⟨_, _, hfw, _, hprod⟩ := he.e_ret hm
    rcases hf with h | h
    · rcases hn.hfail h with h1 | h1
      · omega
      · simp [hm] at h1
    · have h1 := hh.srcFailed_iff.mp h
      rcases hprod with h2 | h2 <;> simp [h1] at h2
  · rfl

/-- **Errors surface.**  If a task or the source raised, every complete run (that is not paused on
purpose) has ended with `process()` raising — it neither hangs nor returns normally. -/
theorem error_surfaces {c : Cfg} (hfx : c.fx = Fix.all) {conc0 : Nat} {s : St}
    (hr : Reach c conc0 s) (hq : quiescent s = true) (hp : ¬ paused s)
    (hf : 0 < s.failedItems ∨ s.srcFailed = true) : s.main = .raised :=
  failure_raised_if_done hfx hr (no_hang hfx hr hq hp) hf

/-- A quiescent state with `process()` pending is the idle pause and nothing else: `process()` sleeps on the unpause
event, there is no worker task left at all (in flight, finished or failed and unobserved), no task has ever raised
and the source has not raised.  (The hypothesis `paused s` is not needed: `quiescent_pending` concludes it.) -/
theorem paused_pending_is_idle {c : Cfg} (hfx : c.fx = Fix.all) {conc0 : Nat} {s : St}
    (hr : Reach c conc0 s) (hq : quiescent s = true) (hp : paused s) (hd : mainDone s = false) :
    s.main = .waitUnpaused false ∧ s.wt = 0 ∧ s.failedItems = 0 ∧ s.srcFailed = false := by
  obtain ⟨⟨hn, _, hh⟩, _⟩ := inv_reach hfx hr
  obtain ⟨_, h1, h2, h3, h4⟩ := quiescent_pending hn hq hd
  refine ⟨h1, h2, h3, ?_⟩
  cases hsf : s.srcFailed
  · rfl
  · exact absurd (hh.srcFailed_iff.mp hsf) h4

/-- **A failure always surfaces — paused or not.**  If a task or the source raised, then in every
reachable state in which nothing can move and nothing is outstanding, `process()` has raised.  Pausing
(concurrency set to 0 while items are in flight, one of which then raises) is no exception: `process()`
goes to sleep on the unpause event only when no worker task is left. -/
theorem failure_surfaces_paused_or_not {c : Cfg} (hfx : c.fx = Fix.all) {conc0 : Nat} {s : St}
    (hr : Reach c conc0 s) (hq : quiescent s = true)
    (hf : 0 < s.failedItems ∨ s.srcFailed = true) : s.main = .raised := by
  by_cases hp : paused s
  · cases hd : mainDone s
    · obtain ⟨_, _, h3, h4⟩ := paused_pending_is_idle hfx hr hq hp hd
      rcases hf with h | h
      · omega
      · simp [h4] at h
    · exact failure_raised_if_done hfx hr hd hf
  · exact error_surfaces hfx hr hq hp hf

/-- no reachable quiescent state with `process()` pending holds a failed worker task that nobody observed -/
theorem no_unobserved_failed_worker {c : Cfg} (hfx : c.fx = Fix.all) {conc0 : Nat} {s : St}
    (hr : Reach c conc0 s) (hq : quiescent s = true) (hd : mainDone s = false) : s.failedW = 0 := by
  refine Nat.eq_zero_of_not_pos fun h => ?_
  have hfi : 0 < s.failedItems := Nat.lt_of_lt_of_le h (inv_reach hfx hr).1.hist.failedW_le
  have := failure_surfaces_paused_or_not hfx hr hq (Or.inl hfi)
  simp [mainDone, this] at hd

/-- `process()` raises only if a task or the source raised. -/
theorem raised_only_on_failure {c : Cfg} (hfx : c.fx = Fix.all) {conc0 : Nat} {s : St}
    (hr : Reach c conc0 s) (hm : s.main = .raised) : 0 < s.failedItems ∨ s.srcFailed = true :=
  (inv_reach hfx hr).1.hist.raised_cause hm


/-! ### after a stop request -/

/-- number of items whose first task has started -/
def startsIn (l : List Ev) : Nat := (l.filter (fun e => e.task == 0 && !e.fin)).length

theorem startsIn_append (l1 l2 : List Ev) : startsIn (l1 ++ l2) = startsIn l1 + startsIn l2 := by
  simp [startsIn]

theorem stepGetw_frame {s s' : St} (hs : stepGetw s = some s') :
    s'.stopReq = s.stopReq ∧ s'.srcCalls = s.srcCalls := by
  cases stepGetw_shape hs <;> exact ⟨rfl, rfl⟩

theorem stepTask_frame {c : Cfg} {s s' : St} {i : Nat} {ok : Bool} (hs : stepTask c s i ok = some s') :
    s'.stopReq = s.stopReq ∧ s'.srcCalls = s.srcCalls := by
  cases stepTask_shape hs with
  | last _ _ hg => exact (stepGetw_frame hg :)
  | _ => exact ⟨rfl, rfl⟩

theorem stepProd_frame {c : Cfg} (hfx : c.fx = Fix.all) {s s' : St} (hs : stepProd c s = some s') :
    s'.stopReq = s.stopReq ∧ s'.log = s.log := by
  destruct_st s
  cases stepProd_shape hfx hs <;> exact ⟨rfl, rfl⟩

/-- once the pipeline is not running, a worker that calls `get()` starts nothing: while stopping there is a pill for every
live worker (`hpill`), and pills come before items; stopped, the pipeline has no idle worker, before `process()` (`hinit`)
and after it returned (`e_ret`), and it is stopped at no other time (`hstopped`) -/
theorem getw_after_stop {first : Bool} {c : Cfg} {s s' : St} (h : Inv first c s) (hps : s.pstate ≠ .running)
    (hs : stepGetw s = some s') : s'.log = s.log := by
  cases stepGetw_shape hs with
  | pill | park => rfl
  | item hr hp hq =>
    exfalso
    obtain ⟨hn, he, _⟩ := h
    have := hn.hstopped
    have := hn.hpill
    have := hn.hinit
    have := he.e_ret
    simp only [St.live] at *
    grind

/-- **After a stop: no further work is taken.**  A step taken from a state in which the pipeline is no longer
`running` (a `stop()` took effect) neither calls `get_item` nor starts an item. -/
theorem no_work_after_stop {c : Cfg} (hfx : c.fx = Fix.all) {conc0 : Nat} {s s' : St} {a : Act}
    (hr : Reach c conc0 s) (hps : s.pstate ≠ .running) (hm : s.main ≠ .init) (hs : step c s a = some s') :
    s'.srcCalls = s.srcCalls ∧ startsIn s'.log = startsIn s.log := by
  obtain ⟨hi, _⟩ := inv_reach hfx hr
  cases a with
  | prod =>
    refine ⟨?_, by rw [(stepProd_frame hfx hs).2]⟩
    -- a path that polls the source is guarded by `prodRunning = true` or `pstate = .running`
    have hrun := hi.hist.not_running hps
    destruct_st s
    cases stepProd_shape hfx hs <;> first | rfl | (exfalso; simp_all)
  | main => have := sameHist_main hfx hs; exact ⟨this.srcCalls, by rw [this.log]⟩
  | getw =>
    exact ⟨(stepGetw_frame hs).2, by rw [getw_after_stop hi hps hs]⟩
  | task i ok =>
    refine ⟨(stepTask_frame hs).2, ?_⟩
    cases stepTask_shape hs with
    | next => simp [startsIn]
    | last hrun _ hg =>
      rw [getw_after_stop (inv_midSt hi hrun) (by simpa [midSt, notifyProd] using hps) hg]
      simp [midSt, notifyProd, startsIn]
    | fail => rfl
  | stop => have := sameHist_stop hs; exact ⟨this.srcCalls, by rw [this.log]⟩
  | setConc n => have := sameHist_setConc hs; exact ⟨this.srcCalls, by rw [this.log]⟩

theorem stopReq_mono {c : Cfg} (hfx : c.fx = Fix.all) {s s' : St} {a : Act} (hs : step c s a = some s')
    (h : s.stopReq = true) : s'.stopReq = true := by
  cases a with
  | prod => exact (stepProd_frame hfx hs).1.trans h
  | main => exact (sameHist_main hfx hs).stopReq.trans h
  | getw => exact (stepGetw_frame hs).1.trans h
  | task i ok => exact (stepTask_frame hs).1.trans h
  | stop => exact (sameHist_stop hs).stopReq
  | setConc n => exact (sameHist_setConc hs).stopReq.trans h

/-- **After a stop request no item begins.**  From the moment `stop()` has been requested, along every
continuation of the run, no item begins its first task and `get_item` is never called again: an item that was
queued (or held by the producer) when the stop came is never processed, only the items already inside a task
finish.  (The queue hands out poison pills before any queued item, and `stop()` inserts one pill per worker task.) -/
theorem no_item_begins_after_stop_request {c : Cfg} (hfx : c.fx = Fix.all) {conc0 : Nat} :
    ∀ (acts : List Act) (s s' : St), Reach c conc0 s → s.stopReq = true → runActs c s acts = some s' →
      startsIn s'.log = startsIn s.log ∧ s'.srcCalls = s.srcCalls
  | [], s, s', _, _, h => by simp [runActs] at h; subst h; exact ⟨rfl, rfl⟩
  | a :: as, s, s', hr, hstop, h => by
    simp only [runActs] at h
    split at h
    · rename_i s1 hs1
      have hh := (inv_reach hfx hr).1.hist
      have hps := hh.stopReq_stops hstop
      have hm : s.main ≠ .init := fun e => by have := hh.init_no_stopReq e; simp [hstop] at this
      have h1 := no_work_after_stop hfx hr hps hm hs1
      have h2 := no_item_begins_after_stop_request hfx as s1 s' (Reach.step a hr hs1) (stopReq_mono hfx hs1 hstop) h
      exact ⟨h2.1.trans h1.2, h2.2.trans h1.1⟩
    · contradiction

/-- **Returns after a stop.**  Once `stop()` has been requested, every complete run has ended with
`process()` completed (returned, or raised if something failed); with `no_item_begins_after_stop_request` this
is the stop clause of C13. -/
theorem returns_after_stop {c : Cfg} (hfx : c.fx = Fix.all) {conc0 : Nat} {s : St}
    (hr : Reach c conc0 s) (hstop : s.stopReq = true) (hq : quiescent s = true) :
    s.pstate ≠ .running ∧ mainDone s = true := by
  have hps := (inv_reach hfx hr).1.hist.stopReq_stops hstop
  exact ⟨hps, no_hang hfx hr hq (fun h => hps h.1)⟩


/-! ### termination -/

/-- `IStep s' s`: `s` is reachable and `s'` is the result of one internal step (a step of the
producer, of `process()`, of a worker, or a task completing/raising — not `stop()` / `concurrency = n`). -/
def IStep (c : Cfg) (conc0 : Nat) (s' s : St) : Prop :=
  Reach c conc0 s ∧ ∃ a, a.internal = true ∧ step c s a = some s'

/-- **No livelock.**  The internal-step relation on reachable states is well founded: the pair (`rank`, `phi`) of
`Lemmas/PipelineTerm` decreases lexicographically on every internal step. -/
theorem terminates {c : Cfg} (hfx : c.fx = Fix.all) (conc0 : Nat) : WellFounded (IStep c conc0) := by
  have hwf : WellFounded (InvImage (Prod.Lex (· < ·) (· < ·)) (fun s : St => (rank s, phi c s))) :=
    InvImage.wf _ (Prod.lex Nat.lt_wfRel Nat.lt_wfRel).wf
  refine Subrelation.wf ?_ hwf
  intro s' s ⟨hr, a, ha, hs⟩
  have hd := decr_step hfx (inv_reach hfx hr).1 ha hs
  simp only [InvImage]
  rcases hd with h | ⟨h1, h2⟩
  · exact Prod.Lex.left _ _ h
  · rw [h1]; exact Prod.Lex.right _ h2

/-- **Always finishes.**  There is no infinite run of internal steps: between two control calls
(`stop()`, `concurrency = n`) the pipeline makes finitely many steps, and with `no_hang` the state in
which it comes to rest has `process()` completed (or is paused on purpose). -/
theorem no_infinite_internal_run {c : Cfg} (hfx : c.fx = Fix.all) {conc0 : Nat} (f : Nat → St)
    (h0 : Reach c conc0 (f 0)) : ¬ ∀ i, ∃ a, a.internal = true ∧ step c (f i) a = some (f (i + 1)) := by
  intro hall
  have hreach : ∀ i, Reach c conc0 (f i) := by
    intro i
    induction i with
    | zero => exact h0
    | succ i ih => obtain ⟨a, _, hs⟩ := hall i; exact Reach.step a ih hs
  have key : ∀ s, Acc (IStep c conc0) s → ∀ i, f i = s → False := by
    intro s hacc
    induction hacc with
    | intro s _ ih =>
      intro i hi
      obtain ⟨a, ha, hs⟩ := hall i
      exact ih (f (i + 1)) ⟨hi ▸ hreach i, a, ha, hi ▸ hs⟩ (i + 1) rfl
  exact key (f 0) ((terminates hfx conc0).apply (f 0)) 0 rfl

/-! ### a second `process()` on the same object -/

/-- **The state a finished run leaves behind is a valid initial state.**  When `process()` has returned — after
any history of runs on this object — no worker task is alive, `_worker_tasks` is empty, the producer task has
ended, no item is inside a task, the pipeline state is `stopped`; and `process()` may be called again with any
concurrency `k`: `InvN` and `InvE` hold at the start of the new run, which does not start in the busy loop.  (The
condition lock is free in every state of the model: it is never held across a suspension; the harness checks
`Condition.locked()` after every returned run.) -/
theorem run_end_is_valid_start {c : Cfg} (hfx : c.fx = Fix.all) {conc0 : Nat} {s : St} (hr : ReachR conc0 c s)
    (hret : s.main = .returned) :
    (s.live = 0 ∧ s.exited = 0 ∧ s.failedW = 0 ∧ s.pstate = .stopped ∧ (s.prod = .finished ∨ s.prod = .cancelled) ∧
      ∀ (i k : Nat), s.items[i]? ≠ some (Ph.run k)) ∧
    ∀ k, InvN (restartSt c k s) ∧ InvE (restartSt c k s) ∧ (restartSt c k s).main ≠ .spin ∧
      ((restartSt c k s).pstate = .running ∧ ((restartSt c k s).unpaused = true ↔ 0 < k)) := by
  obtain ⟨hi, _⟩ := inv_reachR hr hfx
  have ⟨hn, he, _⟩ := hi
  obtain ⟨h1, h2, h3, h4, h5⟩ := he.e_ret hret
  refine ⟨⟨h1, h2, h3, h4, h5, fun i k hik => ?_⟩, fun k => ?_⟩
  · have := countRun_pos hik
    have hb := hn.hbusy
    simp only [St.live] at h1
    omega
  · have h := inv_restart hfx k 0 hi hret
    have hrun : (restartSt c k s).pstate = .running ∧ (restartSt c k s).conc = k := by
      simp only [restartSt, mainLoop_eq, runSt, if_true, and_self]
    have := h.ctl.hpause hrun.1
    rw [hrun.2] at this
    exact ⟨h.ctl, h.atEnd, h.ctl.hspin, hrun.1, this⟩

/-- **Returned means nothing is in flight.**  When `process()` has returned no worker task is alive, no task has
failed (a failure ends in `raised`) and no item is inside a task. -/
theorem returned_nothing_in_flight {c : Cfg} (hfx : c.fx = Fix.all) {conc0 : Nat} {s : St}
    (hr : Reach c conc0 s) (hret : s.main = .returned) :
    s.live = 0 ∧ s.failedItems = 0 ∧ ∀ (i k : Nat), s.items[i]? ≠ some (Ph.run k) := by
  obtain ⟨⟨hl, _, hfw, _, _, hrun⟩, _⟩ := run_end_is_valid_start hfx hr.reachR hret
  refine ⟨hl, ?_, hrun⟩
  refine Nat.eq_zero_of_not_pos fun h => ?_
  rcases (inv_reach hfx hr).1.ctl.hfail h with h1 | h1
  · omega
  · simp [hret] at h1

def runActsR (c : Cfg) (s : St) : List (Act ⊕ Nat) → Option St
  | [] => some s
  | a :: as => match stepR c s a with
    | some s' => runActsR c s' as
    | none => none

open Act in
/-- non-vacuity of `tasks_in_order_at_most_once_any_run`: run 1 is stopped with the producer blocked behind a queued item (producer cancelled, item 1 left in
the queue, item 2 dropped), `process()` again with 2 workers: the left-over item 1 is processed by run 2 -/
example : ∃ s, runActsR ⟨3, 0, false, Fix.all⟩ (initSt 1)
      [.inl main, .inl prod, .inl prod, .inl getw, .inl prod, .inl prod, .inl stop, .inl (task 0 true), .inl main,
       .inl prod, .inl main, .inr 2, .inl getw, .inl (task 1 true)] = some s ∧
    s.pstate = .running ∧ s.items = [.done, .done, .held] ∧ proj 1 s.log = pre 1 := by
  decide

open Act in
/-- non-vacuity of `unstopped_run_exhausts_source` for a second run: run 1 ends naturally, `process()` again, the new
producer polls the source (which has nothing left), the run returns, no stop was requested, item 0 is done once.
(With `Producer._running` never set again — seeded C13-13 — the producer of run 2 would not poll the source.) -/
example : ∃ s, runActsR ⟨1, 0, false, Fix.all⟩ (initSt 1)
      [.inl main, .inl prod, .inl prod, .inl getw, .inl prod, .inl (task 0 true), .inl prod, .inl prod, .inl getw,
       .inl main, .inr 1, .inl prod, .inl prod, .inl getw, .inl main] = some s ∧
    s.main = .returned ∧ s.stopReq = false ∧ s.srcCalls = 4 ∧ s.items = [.done] ∧ proj 0 s.log = pre 1 := by
  decide

open Act in
/-- **Unrepaired code (seeded C13-10 / before fix f515763).**  When `process()` does not clear a stale
`_unpaused_event`, a second run started with concurrency 0 spins without yielding (the first run always ends in
`stop()`, which sets the event). -/
theorem restart_paused_counterexample :
    ∃ s, runActsR ⟨0, 0, false, { Fix.all with pauseAtStart := false }⟩ (initSt 1)
      [.inl main, .inl prod, .inl prod, .inl getw, .inl main, .inr 0] = some s ∧ s.main = .spin := by
  decide

/-! ### `Application.run()` over the pipeline series -/

theorem appRun_spec (sd : Nat) (fi : Option Nat) :
    ∀ (ps : List PipeSpec) (i : Nat) (stopping : Bool), (sd < i → stopping = true) →
      ∀ j ∈ appRun ps i stopping (some sd) fi, i ≤ j ∧ ∃ p, ps[j - i]? = some p ∧ (sd < j → p.skippable = false)
  | [], _, _, _, j, hj => by simp [appRun] at hj
  | p :: ps, i, stopping, hst, j, hj => by
    -- a pipeline begun in the rest of the run: the flag passed on is set once `sd` is behind
    have rest : ∀ st, (sd < i + 1 → st = true) → j ∈ appRun ps (i + 1) st (some sd) fi →
        i ≤ j ∧ ∃ q, (p :: ps)[j - i]? = some q ∧ (sd < j → q.skippable = false) := fun st hst' hj => by
      obtain ⟨h1, q, h2, h3⟩ := appRun_spec sd fi ps (i + 1) st hst' j hj
      refine ⟨by omega, q, ?_, h3⟩
      rw [show j - i = (j - (i + 1)) + 1 by omega]
      simpa using h2
    simp only [appRun] at hj
    split at hj
    · next hskip => exact rest stopping (fun _ => by simp at hskip; exact hskip.1) hj
    · next hns =>
      have here : i ≤ i ∧ ∃ q, (p :: ps)[i - i]? = some q ∧ (sd < i → q.skippable = false) := by
        refine ⟨Nat.le_refl _, p, by simp, fun h => ?_⟩
        cases hp : p.skippable
        · rfl
        · simp [hst h, hp] at hns
      split at hj
      · simp at hj; subst hj; exact here
      · rcases List.mem_cons.mp hj with rfl | hj
        · exact here
        · refine rest _ (fun h => ?_) hj
          by_cases e : sd = i
          · simp [e]
          · simp [hst (by omega)]

/-- **After `Application.stop()` only non-skippable pipelines are started.**  If `stop()` is called while
pipeline `d` runs, every pipeline started later is one that is not flagged skippable — for every series,
every stop position and every failing pipeline. -/
theorem app_after_stop_only_nonskippable (ps : List PipeSpec) (d : Nat) (fi : Option Nat) (j : Nat)
    (hj : j ∈ appRun ps 0 false (some d) fi) (hd : d < j) : ∃ p, ps[j]? = some p ∧ p.skippable = false := by
  obtain ⟨_, p, h2, h3⟩ := appRun_spec d fi ps 0 false (by omega) j hj
  exact ⟨p, by simpa using h2, h3 hd⟩

/-- **No new work after `Application.stop()`.**  If every pipeline whose source hands out work items is
flagged skippable (the table the harness reads from the built application), then after a stop request no
pipeline that takes work items is started: only housekeeping pipelines (start-up / shutdown) still run. -/
theorem app_no_new_work_after_stop (ps : List PipeSpec) (hwf : ∀ p ∈ ps, p.work = true → p.skippable = true)
    (d : Nat) (fi : Option Nat) (j : Nat) (hj : j ∈ appRun ps 0 false (some d) fi) (hd : d < j) :
    ∃ p, ps[j]? = some p ∧ p.work = false := by
  obtain ⟨p, h1, h2⟩ := app_after_stop_only_nonskippable ps d fi j hj hd
  refine ⟨p, h1, ?_⟩
  cases hw : p.work
  · rfl
  · have := hwf p (List.mem_of_getElem? h1) hw
    simp [h2] at this

/-- the stop point within a pipeline's turn does not matter: a stop from a `pipeline_begin` listener, during
`process()` (whatever the pipeline's own state) or from a `pipeline_end` listener of pipeline `j` all make every later
pipeline subject to the skippable test — `appRunP` is `appRun` with `stopDuring = j` -/
theorem appRunP_eq (at_ : StopAt) (j : Nat) (fi : Option Nat) :
    ∀ (ps : List PipeSpec) (i : Nat) (stopping : Bool),
      appRunP ps i stopping (some (at_, j)) fi = appRun ps i stopping (some j) fi
  | [], _, _ => by simp [appRunP, appRun]
  | p :: ps, i, stopping => by
    simp only [appRunP, appRun]
    have hflag : (stopping || some (at_, j) == some (StopAt.begin, i) || some (at_, j) == some (StopAt.during, i) ||
        some (at_, j) == some (StopAt.end, i)) = (stopping || some j == some i) := by
      cases at_ <;> simp [Bool.beq_eq_decide_eq]
    rw [hflag, appRunP_eq at_ j fi ps (i + 1) stopping, appRunP_eq at_ j fi ps (i + 1) (stopping || some j == some i)]

/-- **A stop request is never lost between pipelines.**  Wherever in pipeline `d`'s turn `Application.stop()` is
called — from a `pipeline_begin` listener, while `process()` runs or winds down, from a `pipeline_end` listener —
every pipeline begun afterwards is one that is not flagged skippable. -/
theorem app_stop_never_lost (ps : List PipeSpec) (at_ : StopAt) (d : Nat) (fi : Option Nat) (j : Nat)
    (hj : j ∈ appRunP ps 0 false (some (at_, d)) fi) (hd : d < j) : ∃ p, ps[j]? = some p ∧ p.skippable = false := by
  rw [appRunP_eq] at hj
  exact app_after_stop_only_nonskippable ps d fi j hj hd

theorem appRun_all (ps : List PipeSpec) (i : Nat) : appRun ps i false none none = List.range' i ps.length := by
  induction ps generalizing i with
  | nil => simp [appRun]
  | cons p ps ih => simp [appRun, ih, List.range'_succ]

/-- **Every pipeline of the series is processed exactly once.**  Without a stop request and without a failing
pipeline, `Application.run()` begins the pipelines `0, 1, …, n-1` of the series in this order, each exactly once,
whatever their flags.  (In the model the series is a value; that reading `series.pipelines` or setting
`series.concurrency` cannot change the real `PipelineSeries` is what the harness checks, on a list, a tuple, a
generator and an iterator.) -/
theorem app_every_pipeline_once (ps : List PipeSpec) :
    appRun ps 0 false none none = List.range ps.length ∧
    (∀ j, j < ps.length → (appRun ps 0 false none none).count j = 1) := by
  have h : appRun ps 0 false none none = List.range ps.length := by
    rw [appRun_all, List.range_eq_range']
  refine ⟨h, fun j hj => ?_⟩
  rw [h, List.count_range, if_pos hj]

/-- wpull's own series satisfies the hypothesis, and e.g. a stop during the download pipeline (1) leaves only
the shutdown pipeline (4); a stop during start-up (0) skips the crawl; without the `skippable` flag on the link
conversion pipeline (seeded change C13-7) it would be started after the stop -/
example : (∀ p ∈ wpullSeries, p.work = true → p.skippable = true) ∧
    appRun wpullSeries 0 false (some 1) none = [0, 1, 4] ∧ appRun wpullSeries 0 false (some 0) none = [0, 4] ∧
    appRun wpullSeries 0 false none none = [0, 1, 2, 3, 4] ∧ appRun wpullSeries 0 false none (some 1) = [0, 1] ∧
    appRun [⟨false, false⟩, ⟨true, true⟩, ⟨false, true⟩, ⟨true, false⟩, ⟨false, false⟩] 0 false (some 1) none = [0, 1, 3, 4] := by
  decide

/-- **Unrepaired code.**  With the download pipeline not flagged skippable (before fix 9d8c872) a stop during
start-up still starts the download pipeline, which takes work items. -/
theorem app_stop_during_startup_counterexample :
    1 ∈ appRun [⟨false, false⟩, ⟨true, false⟩, ⟨false, true⟩, ⟨true, true⟩, ⟨false, false⟩] 0 false (some 0) none := by
  decide

/-! ### witnesses -/

theorem reach_of_runActs {c : Cfg} {conc0 : Nat} :
    ∀ (acts : List Act) (s0 s : St), Reach c conc0 s0 → runActs c s0 acts = some s → Reach c conc0 s
  | [], s0, s, h0, h => by simp [runActs] at h; exact h ▸ h0
  | a :: as, s0, s, h0, h => by
    simp only [runActs] at h
    split at h
    · rename_i s1 hs1
      exact reach_of_runActs as s1 s (Reach.step a h0 hs1) h
    · contradiction

open Act in
/-- one item, one task, one worker: a complete run (`M P P G P T0 P P G M`) -/
def demoActs : List Act := [main, prod, prod, getw, prod, task 0 true, prod, prod, getw, main]
def demoCfg : Cfg := ⟨1, 0, false, Fix.all⟩

/-- non-vacuity of `returns_when_exhausted` / `exactly_once_without_stop`: the run exists, is quiescent,
returned, and the log is exactly start 0, end 0 of item 0 -/
example : ∃ s, runActs demoCfg (initSt 1) demoActs = some s ∧ quiescent s = true ∧ s.main = .returned ∧
    s.log = [Ev.mk 0 0 false, Ev.mk 0 0 true] ∧ s.stopReq = false ∧ proj 0 s.log = pre 1 := by decide

open Act in
/-- towards `error_surfaces`: the task raises, `process()` raises (the state is not yet quiescent: the producer has one
more step to take) -/
example : ∃ s, runActs demoCfg (initSt 1) [main, prod, prod, getw, task 0 false, main] = some s ∧
    s.main = .raised ∧ 0 < s.failedItems := by decide

open Act in
/-- non-vacuity of `returns_after_stop` / `no_work_after_stop`: stop with the producer blocked behind a
queued item (what hangs the unrepaired code, `stop_counterexample`): the repaired
pipeline cancels the producer and returns; item 1 and 2 are never started -/
example : ∃ s, runActs ⟨3, 0, false, Fix.all⟩ (initSt 1) [main, prod, prod, prod, getw, prod, stop, task 0 true, main, prod, main] = some s ∧
    quiescent s = true ∧ s.main = .returned ∧ s.stopReq = true ∧ startsIn s.log = 1 ∧ s.prod = .cancelled := by
  decide

open Act in
/-- towards `failure_surfaces_paused_or_not`: 2 workers, items 0 and 1 in flight, `concurrency = 0`,
item 0 finishes (its worker takes a pill and leaves, `process()` reaps it and keeps waiting for the other
worker), then item 1's task raises: `process()` raises although the pipeline is paused (the producer has one more step
to take before the state is quiescent) -/
example : ∃ s, runActs ⟨3, 0, false, Fix.all⟩ (initSt 2)
      [main, prod, prod, getw, prod, getw, setConc 0, task 0 true, main, task 1 false, main] = some s ∧
    s.pstate = .running ∧ s.conc = 0 ∧ s.main = .raised ∧ 0 < s.failedItems := by
  decide

open Act in
/-- non-vacuity of `no_item_begins_after_stop_request`: one worker busy with item 0, item 1 already in the queue,
`stop()`, item 0 finishes: its worker takes the poison pill (ahead of item 1) and leaves; item 1 stays queued and
never begins -/
example : ∃ s, runActs ⟨3, 0, false, Fix.all⟩ (initSt 1) [main, prod, prod, getw, prod, stop, task 0 true] = some s ∧
    s.stopReq = true ∧ s.qitem = some 1 ∧ s.pills = 0 ∧ s.exited = 1 ∧ startsIn s.log = 1 ∧
    s.items = [.done, .queued] := by
  decide

/-- a hang: nothing can move, nothing is outstanding, `process()` has not completed and the
pipeline is not paused on purpose -/
def Hung (s : St) : Prop :=
  quiescent s = true ∧ mainDone s = false ∧ ¬ (s.pstate = .running ∧ s.conc = 0)

instance (s : St) : Decidable (Hung s) := by unfold Hung; infer_instance

open Act in
/-- **Unrepaired code (DESIGN §7 #9).**  Without the producer cancellation, `stop()` while the producer
is blocked in `put_item` behind a queued item hangs `process()`:
3 items, 1 task, 1 worker, schedule `M P P S G P M`. -/
theorem stop_counterexample :
    ∃ s, runActs ⟨3, 0, false, { Fix.all with cancelProducer := false }⟩ (initSt 1)
      [main, prod, prod, stop, getw, prod, main] = some s ∧ Hung s := by
  decide

open Act in
/-- **Unrepaired code (DESIGN §7 #19).**  Without `stop()` setting `_unpaused_event`, concurrency set to 0
while the last item is in flight hangs `process()` although the source is exhausted and every item
finished: 1 item, schedule `M P P G C0 T0 M P`. -/
theorem pause_counterexample :
    ∃ s, runActs ⟨1, 0, false, { Fix.all with wakeOnStop := false }⟩ (initSt 1)
      [main, prod, prod, getw, setConc 0, task 0 true, main, prod] = some s ∧ Hung s ∧
      s.pstate = .stopping ∧ s.unfinished = 0 := by
  decide

open Act in
/-- **Unrepaired code.**  With concurrency 0 before `process()` the first step of `process()` never
yields (`while running: yield from event.wait()` with the event set). -/
theorem pause_at_start_counterexample :
    ∃ s, runActs ⟨1, 0, false, { Fix.all with pauseAtStart := false }⟩ (initSt 0) [main] = some s ∧
      s.main = .spin := by
  decide

open Act in
/-- **Unrepaired code.**  A `stop()` before the producer task's first step is forgotten
(`Producer.process` sets `_running = True`): `get_item` is called after the stop. -/
theorem stop_forgotten_counterexample :
    ∃ s, runActs ⟨1, 0, false, { Fix.all with startGuard := false }⟩ (initSt 1) [main, stop, prod] = some s ∧
      s.pstate = .stopping ∧ s.callsAtStop < s.srcCalls := by
  decide

open Act in
/-- **Unrepaired code.**  A task that raises while the pipeline shuts down is dropped: `process()` returns. -/
theorem error_swallowed_counterexample :
    ∃ s, runActs ⟨1, 0, false, { Fix.all with reapOnShutdown := false }⟩ (initSt 2)
      [main, prod, prod, prod, getw, stop, prod, getw, main, task 0 false, main] = some s ∧
      s.main = .returned ∧ 0 < s.failedItems := by
  decide

end Wpull.Pipeline
