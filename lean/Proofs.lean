import Proofs.Lemmas.UrlInv
import Proofs.Lemmas.Alphabet
import Proofs.Lemmas.List
import Proofs.Lemmas.Lit
import Proofs.Lemmas.Lines
import Proofs.Lemmas.Py
import Proofs.Lemmas.WebSession
import Proofs.C17
import Proofs.C01
import Proofs.C03
import Proofs.C15
import Proofs.C19
import Proofs.C20
import Proofs.C20Parse
import Proofs.C09Status
import Proofs.C14
import Proofs.C12
import Proofs.C11
import Proofs.Lemmas.Ipv4
import Proofs.Lemmas.Flatten
import Proofs.C10
import Proofs.C02
import Proofs.Lemmas.Warc
import Proofs.Lemmas.WarcHistory
import Proofs.C05
import Proofs.C07
import Proofs.C18
import Proofs.C16
import Proofs.C06
import Proofs.C09
import Proofs.C08
import Proofs.C04
import Proofs.C08Trunc
import Proofs.C13
import Proofs.C10Norm
import Proofs.C11Extra
